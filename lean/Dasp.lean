-- Root of the library: every property module and the modules tying the idealised ring buffers to C06's.
import Dasp.Props.C01
import Dasp.Props.C02
import Dasp.Props.C03
import Dasp.Props.C04
import Dasp.Props.C05
import Dasp.Props.C06
import Dasp.Props.C07
import Dasp.Props.C08
import Dasp.Props.C09
import Dasp.Props.C10
import Dasp.Props.C11
import Dasp.Props.C12
import Dasp.Props.C13
import Dasp.Props.C14
import Dasp.Props.C15
import Dasp.Props.C16
import Dasp.Props.C17
import Dasp.Props.C18
import Dasp.Props.C19
import Dasp.Props.C19Int
import Dasp.Props.C20
import Dasp.Props.LinkFork
import Dasp.Props.LinkNodes
import Dasp.Props.LinkRms
import Dasp.Props.LinkSinc
