import Dasp.Props.C01
import Dasp.Props.C02
import Dasp.Model.Sample
/-!
# C03 — sample and frame amplitude arithmetic obeys its identities, channel by channel

Property text (properties.jsonl, C03): for every sample format and value, offsetting by zero
returns the sample unchanged, scaling by 0.0 returns the format's equilibrium, scaling by
1.0 returns the same sample (exactly when the format fits its float companion's mantissa,
otherwise within that float precision), and in general offset and scale equal native
addition/multiplication performed on the sample's signed / normalised-float conversion and
converted back, so unsigned formats are re-centred rather than treated as raw integers.
For frames of every channel count from 1 to 32, each frame operation is exactly the
per-channel application of the corresponding sample operation in channel order.  A bare
sample used as a frame behaves as the 1-channel frame of that sample.

The sample-level model composes the conversion bodies and the `impl_sample!` table, both
regenerated from /repo on every run.  Frame theorems hold for every channel count `n`.
-/
namespace Dasp.Props.C03
open Dasp Dasp.Gen Dasp.Model

/-- the associated `Signed` format is signed and at least as wide (it is the same width except
    for U24 → i32 and U48 → i64) -/
theorem signedOf_facts (s : Fmt) : (signedOf s).off = 0 ∧ s.bits ≤ (signedOf s).bits := by
  cases s <;> decide

/-- `EQUILIBRIUM` of every integer format is its half-range offset -/
theorem equilibrium_eq (s : Fmt) : equilibrium s = s.off := by cases s <;> rfl

/-- which formats fit their float companion's mantissa: 8/16/24-bit in f32, 48-bit in f64 -/
theorem fits_iff (s : Fmt) : s.bits ≤ (floatOf s).fmt.prec ↔ s.bits ≠ 32 ∧ s.bits ≠ 64 := by
  cases s <;> decide

/-- the identity `FromSample<T> for T` is no exception: `specConv s s` is the identity too -/
theorem convI_spec (s d : Fmt) (v : Int) (h : s.inRange v) :
    convI s d v = specConv s d v ∧ d.inRange (convI s d v) := by
  unfold convI
  by_cases hsd : s = d
  · subst hsd; rw [if_pos rfl, specConv_same_bits rfl, Int.sub_add_cancel]; exact ⟨rfl, h⟩
  · rw [if_neg hsd]
    exact ⟨(C01.conv_spec s d hsd v h).2.2, C01.conv_inRange s d hsd v h⟩

/-- offset equals native addition on the signed conversion, converted back -/
theorem addAmp_spec (s : Fmt) (v a : Int) (_hv : s.inRange v)
    (hr : (signedOf s).inRange (convI s (signedOf s) v + a)) :
    addAmpI s v a = convI (signedOf s) s (convI s (signedOf s) v + a) ∧ s.inRange (addAmpI s v a) := by
  unfold addAmpI; exact ⟨rfl, (convI_spec _ s _ hr).2⟩

/-- … which re-centres unsigned formats: in amplitude terms the result is `v + ⌊a / 2^(signed bits − bits)⌋`
    (plain `v + a` for every format whose `Signed` companion has the same width) -/
theorem addAmp_value (s : Fmt) (v a : Int) (hv : s.inRange v)
    (hr : (signedOf s).inRange (convI s (signedOf s) v + a)) :
    addAmpI s v a = v + a / 2 ^ ((signedOf s).bits - s.bits) := by
  -- widen to the signed companion, add there, narrow back
  rw [addAmpI, (convI_spec (signedOf s) s _ hr).1, (convI_spec s (signedOf s) v hv).1,
    specConv_widen_add_narrow (signedOf_facts s).2]

/-- offsetting by zero returns the sample unchanged -/
theorem addAmp_zero (s : Fmt) (v : Int) (hv : s.inRange v) : addAmpI s v 0 = v := by
  have hr : (signedOf s).inRange (convI s (signedOf s) v + 0) := by
    rw [Int.add_zero]; exact (convI_spec s (signedOf s) v hv).2
  rw [addAmp_value s v 0 hv hr]; simp

/-- scaling by ±0.0 returns the format's equilibrium -/
theorem mulAmp_zero (s : Fmt) (v : Int) (hv : s.inRange v) (n : Bool) :
    mulAmpI s v (.fin n 0) = equilibrium s := by
  rw [mulAmpI, toFloatI, C02.i2f_spec s _ v hv, specI2F_eq, equilibrium_eq, mul_fin _ _ _ (by rw [mul_zero]), mul_zero,
    rsm_zero]
  exact C02.f2i_zero' _ _ _

/-- scaling by 1.0 is the round trip through the float companion, for every format -/
theorem mulAmp_one_eq (s : Fmt) (v : Int) (hv : s.inRange v) :
    mulAmpI s v (.fin false 1) = (f2iTable (floatOf s) s).f2iVal ((i2fTable s (floatOf s)).i2fVal v) := by
  obtain ⟨hp, he, hk⟩ := (floatOf s).room s.bits_pred_le
  rw [mulAmpI, toFloatI, C02.i2f_spec s _ v hv, specI2F_mul_one _ hp (by omega) (by omega) _ _ (Fmt.amp_abs hv)]

/-- scaling by 1.0 returns the same sample exactly whenever the format fits its float
    companion's mantissa (all formats except the 32- and 64-bit ones, see `fits_iff`) -/
theorem mulAmp_one (s : Fmt) (hfit : s.bits ≤ (floatOf s).fmt.prec) (v : Int) (hv : s.inRange v) :
    mulAmpI s v (.fin false 1) = v := by
  rw [mulAmp_one_eq s v hv]; exact C02.f2i_inverts_i2f s _ hfit v hv

theorem wide_facts (s : Fmt) (hbig : s.bits = 32 ∨ s.bits = 64) :
    s.carrier.lo = -2 ^ (s.bits - 1) ∧ s.carrier.hi = 2 ^ (s.bits - 1) - 1 ∧ (floatOf s).fmt.prec ≤ s.bits - 1 := by
  cases s <;> simp at hbig <;> decide

/-- scaling by 1.0 on the formats that do NOT fit their float companion's mantissa (i32/u32 in f32,
    i64/u64 in f64): the result is in range and within the float precision, `2^(bits − prec)`, of the
    sample (2^8 for the 32-bit formats, 2^11 for the 64-bit ones) — the top values saturate -/
theorem mulAmp_one_approx (s : Fmt) (hbig : s.bits = 32 ∨ s.bits = 64) (v : Int) (hv : s.inRange v) :
    s.inRange (mulAmpI s v (.fin false 1)) ∧
    |mulAmpI s v (.fin false 1) - v| ≤ 2 ^ (s.bits - (floatOf s).fmt.prec) := by
  obtain ⟨hlo, hhi⟩ := Fmt.amp_bound hv
  obtain ⟨c1, c2, hpk⟩ := wide_facts s hbig
  obtain ⟨hp, he, hk⟩ := (floatOf s).room s.bits_pred_le
  -- the cast type is exactly as wide as the format, so the saturating cast keeps the result in range
  obtain ⟨r, hr, h1, h2, h3⟩ := i2f_f2i_near (floatOf s).fmt hp (v - s.off) (s.bits - 1) s.carrier hk (by omega) hpk
    (c1 ▸ hlo) (c2 ▸ hhi) (Fmt.amp_abs hv)
  rw [c1] at h1; rw [c2] at h2
  have := s.lo_sub_off; have := s.hi_sub_off
  rw [mulAmp_one_eq s v hv, C02.i2f_spec s _ v hv, (f2i_table_spec _ s).2 _ r hr h1 h2,
    show r + s.off - v = r - (v - s.off) by ring]
  exact ⟨⟨by omega, by omega⟩, le_trans h3 (pow_le_pow_right₀ (by norm_num) (by omega))⟩

/-- scale equals native multiplication on the normalised-float conversion, converted back
    (unfolding of the model, stated so the composition is visible) -/
theorem mulAmp_def (s : Fmt) (v : Int) (amp : FP) :
    mulAmpI s v amp = (f2iTable (floatOf s) s).f2iVal (mul (floatOf s).fmt ((i2fTable s (floatOf s)).i2fVal v) amp) := rfl

theorem fromFn_length {α} (n : Nat) (f : Nat → α) : (fromFn n f).length = n := by simp [fromFn]

/-- `from_fn` fills channel `i` with `f i`, in channel order -/
theorem fromFn_get {α} (n : Nat) (f : Nat → α) (i : Nat) (h : i < n) : (fromFn n f)[i]? = some (f i) := by
  simp [fromFn, h]

/-- every unchecked channel access of `map`/`zip_map` is in bounds: the default is never observed -/
theorem chan_inbounds {α} (d : α) (fr : List α) (i : Nat) (h : i < fr.length) : chan d fr i = fr[i] := by
  simp [chan, h]

/-- `map` is exactly the per-channel application in channel order -/
theorem fmap_eq {α β} (d : α) (n : Nat) (fr : List α) (f : α → β) (h : fr.length = n) : fmap d n fr f = fr.map f := by
  subst h
  apply List.ext_getElem (by simp [fmap, fromFn])
  intro i h1 h2
  have hi : i < fr.length := by simpa using h2
  simp [fmap, fromFn, chan, hi]

/-- `zip_map` is exactly the per-channel application in channel order -/
theorem fzipMap_eq {α β γ} (da : α) (db : β) (n : Nat) (a : List α) (b : List β) (f : α → β → γ)
    (ha : a.length = n) (hb : b.length = n) : fzipMap da db n a b f = List.zipWith f a b := by
  subst ha
  apply List.ext_getElem (by simp [fzipMap, fromFn, hb])
  intro i h1 h2
  have hi : i < a.length := by simp [List.length_zipWith] at h2; omega
  have hj : i < b.length := by omega
  simp [fzipMap, fromFn, chan, hi, hj]

theorem offsetAmp_eq {α σ} (d : α) (n : Nat) (fr : List α) (addAmp : α → σ → α) (a : σ) (h : fr.length = n) :
    offsetAmp d n fr addAmp a = fr.map (fun s => addAmp s a) := fmap_eq d n fr _ h
theorem scaleAmp_eq {α φ} (d : α) (n : Nat) (fr : List α) (mulAmp : α → φ → α) (a : φ) (h : fr.length = n) :
    scaleAmp d n fr mulAmp a = fr.map (fun s => mulAmp s a) := fmap_eq d n fr _ h
theorem addAmpFr_eq {α σ} (d : α) (ds : σ) (n : Nat) (fr : List α) (o : List σ) (addAmp : α → σ → α)
    (h : fr.length = n) (ho : o.length = n) : addAmpFr d ds n fr o addAmp = List.zipWith addAmp fr o :=
  fzipMap_eq d ds n fr o _ h ho
theorem mulAmpFr_eq {α φ} (d : α) (df : φ) (n : Nat) (fr : List α) (o : List φ) (mulAmp : α → φ → α)
    (h : fr.length = n) (ho : o.length = n) : mulAmpFr d df n fr o mulAmp = List.zipWith mulAmp fr o :=
  fzipMap_eq d df n fr o _ h ho
theorem convFrame_eq {α β} (d : α) (n : Nat) (fr : List α) (conv : α → β) (h : fr.length = n) :
    convFrame d n fr conv = fr.map conv := fmap_eq d n fr _ h
theorem equilibriumFrame_get {α} (n : Nat) (eq : α) (i : Nat) (h : i < n) : (equilibriumFrame n eq)[i]? = some eq := by
  simp [equilibriumFrame, h]

/-- construction from a sample iterator: takes exactly the first `n` samples in order and
    leaves the rest; if fewer than `n` remain it yields `None` and has drained the iterator -/
theorem fromSamples_spec {α} (n : Nat) (xs : List α) :
    fromSamples n xs = if n ≤ xs.length then (some (xs.take n), xs.drop n) else (none, []) := by
  induction n generalizing xs with
  | zero => simp [fromSamples]
  | succ n ih =>
    cases xs with
    | nil => simp [fromSamples]
    | cons x xs =>
      by_cases hle : n ≤ xs.length <;> simp [fromSamples, ih xs, hle]

/-- channel iteration yields the channels in order, `channel i` indexes them -/
theorem channelsFrom_eq {α} (fr : List α) (fuel i : Nat) (h : fr.length < fuel + i) :
    channelsFrom fr fuel i = fr.drop i := by
  induction fuel generalizing i with
  | zero => simp [channelsFrom]; omega
  | succ f ih =>
    simp only [channelsFrom, channel]
    by_cases hi : i < fr.length
    · simp only [List.getElem?_eq_getElem hi]
      rw [ih (i + 1) (by omega)]
      exact (List.drop_eq_getElem_cons hi).symm
    · simp [List.getElem?_eq_none (by omega : fr.length ≤ i)]; omega

theorem channels_eq {α} (fr : List α) : channels fr = fr := by
  unfold channels; rw [channelsFrom_eq fr _ 0 (by omega)]; simp

/-- a bare sample used as a frame is the 1-channel frame: every operation above at `n = 1` on `[s]` -/
theorem mono_map {α β} (d : α) (s : α) (f : α → β) : fmap d 1 [s] f = [f s] := by
  simp [fmap_eq d 1 [s] f rfl]

/-! ### non-vacuity -/
example : addAmpI .u8 192 (-128) = 64 := by
  rw [addAmp_value .u8 192 (-128) (by simp [Fmt.inRange]) (by
    show Fmt.inRange .i8 (convI .u8 .i8 192 + -128)
    rw [(convI_spec .u8 .i8 192 (by simp [Fmt.inRange])).1]; simp [specConv, Fmt.inRange])]
  simp [signedOf]
example : Fmt.inRange .u24 100 ∧ Fmt.bits .u24 ≤ (floatOf .u24).fmt.prec := by
  simp [Fmt.inRange, floatOf, FFmt.fmt, Dasp.f32]
example : fromSamples 2 [1, 2, 3] = (some [1, 2], [3]) := by rw [fromSamples_spec]; simp
example : fromSamples 4 [1, 2, 3] = ((none : Option (List Nat)), []) := by rw [fromSamples_spec]; simp

end Dasp.Props.C03
