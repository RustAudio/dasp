import Dasp.Lemmas.Trunc
/-!
# C19 — the envelope step on INTEGER sample formats

`Detector::next` on an integer format computes `d + to_int(fl(to_float(l - d) * gain))`: the difference is taken in
the integer format, scaled in the format's float type, converted back by truncation toward zero and added to the
detected value.  `intEnv d p = d + trunc p` is that last step for the scaled difference `p`.

* `int_env_between`: whenever the scaled difference lies between 0 and the exact difference `l - d` (which is what
  `RndMono.scale_nonneg` / `scale_nonpos` of `Lemmas/Rounding.lean` give when `l - d` is exactly representable in the
  float type and `0 ≤ gain ≤ 1`: rounding is monotone and fixes representable values), the integer output lies between the previous
  envelope and the detected value.
* `int_env_overshoot_witness`: the hypothesis is needed — the concrete values of the known finding
  `C19-wide-int-difference-rounding` (i32 through binary32: `l - d = 2^30 + 65` rounds to `2^30 + 128` before the
  scaling by a gain that rounds to 1) give an output above the previous envelope.
-/
namespace Dasp.Props.C19Int

/-- float -> integer conversion of the signed amplitude: truncation toward zero -/
def trunc (q : ℚ) : ℤ := if 0 ≤ q then ⌊q⌋ else ⌈q⌉

/-- `d.add_amp(p.to_sample())` -/
def intEnv (d : ℤ) (p : ℚ) : ℤ := d + trunc p

/-- *"hence it always lies between the previous envelope and the detected value"* on an integer format, given that the
    scaled difference lies between 0 and the exact difference -/
theorem int_env_between (l d : ℤ) (p : ℚ)
    (h : (0 ≤ p ∧ p ≤ ((l - d : ℤ) : ℚ)) ∨ (((l - d : ℤ) : ℚ) ≤ p ∧ p ≤ 0)) :
    min l d ≤ intEnv d p ∧ intEnv d p ≤ max l d := by
  -- `trunc` unfolds to `truncQ`, which is monotone and fixes integers: `trunc p` lies between 0 and `l - d` as `p` does
  have ht : (0 ≤ trunc p ∧ trunc p ≤ l - d) ∨ (l - d ≤ trunc p ∧ trunc p ≤ 0) :=
    h.imp (fun h => ⟨le_truncQ (by exact_mod_cast h.1), truncQ_le h.2⟩)
      (fun h => ⟨le_truncQ h.1, truncQ_le (by exact_mod_cast h.2)⟩)
  unfold intEnv
  omega

/-- time 0 (gain 0, scaled difference 0): the output is the detected value -/
theorem int_env_zero_gain (d : ℤ) : intEnv d 0 = d := by simp [intEnv, trunc]

/-- previous = detected: the output is the detected value whatever the gain -/
theorem int_env_fixed_point (d : ℤ) (g : ℚ) : intEnv d ((((d - d : ℤ)) : ℚ) * g) = d := by simp [intEnv, trunc]

/-- the hypotheses of `int_env_between` are satisfiable: l = 100, d = 40, gain 1/4 -/
example : min (100 : ℤ) 40 ≤ intEnv 40 (((100 - 40 : ℤ) : ℚ) * (1/4)) ∧ intEnv 40 (((100 - 40 : ℤ) : ℚ) * (1/4)) ≤ max 100 40 :=
  int_env_between 100 40 _ (Or.inl (by norm_num))

/-- the known finding: the difference 2^30 + 65 rounded to binary32 is 2^30 + 128; scaled by a gain that rounds to 1
    the output 0 + (2^30 + 128) exceeds the previous envelope 2^30 + 65 -/
theorem int_env_overshoot_witness :
    ¬ (intEnv 0 ((2 ^ 30 + 128 : ℤ) : ℚ) ≤ max (2 ^ 30 + 65) 0) := by
  have : intEnv 0 ((2 ^ 30 + 128 : ℤ) : ℚ) = 2 ^ 30 + 128 := (zero_add _).trans (truncQ_int _)
  rw [this]; norm_num

end Dasp.Props.C19Int
