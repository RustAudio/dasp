import Dasp.Lemmas.Converter
import Dasp.Lemmas.Rounding
/-! # C08 — Rate converter positions and consumes source frames exactly by the rate ratio

Property text (properties.jsonl, C08): "With playback ratio r_k in effect for output k (constant, or
changed before every frame as mul_hz does), output n is the interpolator evaluated at source position
P_n = r_0 + ... + r_(n-1): the converter has pulled exactly floor(P_n) source frames beyond the
interpolator's priming, never skipping or re-reading one; the floor interpolator yields the source frame
at floor(P_n), and the linear interpolator yields the straight-line blend of the frames at floor(P_n) and
floor(P_n)+1 at fraction P_n - floor(P_n), never outside the interval spanned by those two frames (up to
float rounding), with the source treated as equilibrium beyond its end. A ratio of exactly 1 reproduces
the source unchanged. The converter reports exhaustion exactly when the source is exhausted and producing
the next output would need a further source frame, so for a constant ratio r a finite source yields
ceil((R+1)/r) output frames, or one more, where R is the number of frames the source still held after the
interpolator was primed."

Model: `Dasp/Model/Converter.lean` (`advance`/`next`/`isExhausted`/`mulHzNext`/`run`/`countUntil`
transcribe interpolate.rs:122-143, signal lib.rs:2228-2232, 2334-2339; `floorInterp`, `linearInterp`
transcribe floor.rs / linear.rs), executed by `driver_c08` at native `f64` against the real code.
The theorems below are about the SAME definitions at the exact-arithmetic instance `ratArith`:
`interpolation_value` follows the recurrence of the code over ℚ. For the f64 accumulator of the real code
this is the statement about "P_n" whenever all partial sums are representable (dyadic ratios — there the
harness's integer oracle demands exactly `⌊P_n⌋` pulls); for other ratios the f64 accumulator is the same
recurrence with one rounding per `+=`/`-=`, tied to the code by bit-exact correspondence, not by theorem.

Conventions. The source is `frames` followed by equilibrium `eq` forever; `srcAt eq frames i` is its
`i`-th frame. "Priming" = the `p0` source frames pulled before the converter was constructed
(`Floor::new(source.next())`: `p0 = 1`, `Linear::new(source.next(), source.next())`: `p0 = 2`), `ist0` the
interpolator state built from them. `posAt rs n = rs[0] + … + rs[n-1] = P_n`. `run … rs c` sets ratio
`rs[k]` immediately before output `k` (what `MulHz::next` does; a constant ratio is `List.replicate n r`).
`feed ip ist0 (pulled eq frames p0 m)` is the interpolator after `next_source_frame` has been called with
exactly the source frames number `p0, p0+1, …, p0+m-1`, in that order (`posAt`, `feed`, `pulled` and the
exhaustion condition `Exh` are defined in `Lemmas/Converter.lean`).

Domain limit (documented, not a theorem): for `interpolation_value ≥ 2^53` the f64 loop of the real code
cannot make progress; the model's fuel reports `diverge` there. Over ℚ the fuel `⌊iv⌋` always suffices
(`diverged = false` below). -/
namespace Dasp.Conv

variable {S I : Type} (sn cs : Rat → Rat) (pi : Rat)

local notation "AR" => ratArith sn cs pi

/-- **Position theorem** ("output n is the interpolator evaluated at source position P_n …: the converter
    has pulled exactly floor(P_n) source frames beyond the interpolator's priming"; "reports exhaustion
    exactly when the source is exhausted and producing the next output would need a further source frame").
    For EVERY interpolator, every source, every priming, every list of ratios `≥ 0` and every output index
    `n`: output `n` exists and
    * after it the source has been pulled `p0 + ⌊P_n⌋` times in total;
    * its frame is the interpolator — fed with exactly the frames `p0 … p0+⌊P_n⌋-1`, in order — evaluated
      at `interpolation_value = P_n − ⌊P_n⌋`;
    * the advance loop terminated within its fuel;
    * `is_exhausted()` just before it was true iff `n ≥ 1`, the source was exhausted by the pulls made so
      far (`p0 + ⌊P_(n-1)⌋ ≥ length`) and output `n` needs a further frame (`⌊P_(n-1)⌋ < ⌊P_n⌋`). -/
theorem converter_position (ip : Interp Rat S I) (eq : List S) (frames : List (List S)) (p0 : Nat) (ist0 : I)
    (ratio0 : Rat) (rs : List Rat) (hrs : ∀ r ∈ rs, 0 ≤ r) (n : Nat) (hn : n < rs.length) :
    ∃ o, (run AR ip eq rs ⟨⟨frames, p0⟩, ist0, 0, ratio0⟩).1[n]? = some o ∧
      o.pulls = p0 + ⌊posAt rs n⌋.toNat ∧
      o.frame = ip.eval (feed ip ist0 (pulled eq frames p0 ⌊posAt rs n⌋.toNat)) (posAt rs n - ⌊posAt rs n⌋) ∧
      o.diverged = false ∧
      (o.exhBefore = true ↔
        1 ≤ n ∧ frames.length ≤ p0 + ⌊posAt rs (n - 1)⌋.toNat ∧ ⌊posAt rs (n - 1)⌋ < ⌊posAt rs n⌋) := by
  have h0 := Tracks.init ip eq frames p0 ist0 ratio0
  -- before output `n` the state tracks `P_n` with the `⌊P_(n-1)⌋` pulls of the previous output
  have ht : Tracks ip eq frames p0 ist0 (run AR ip eq (rs.take n) ⟨⟨frames, p0⟩, ist0, 0, ratio0⟩).2
      (posAt rs n) ⌊posAt rs (n - 1)⌋.toNat := by
    cases n with
    | zero => simpa [run, posAt] using h0
    | succ m => simpa using run_take_tracks sn cs pi rs hrs h0 m (by omega)
  refine ⟨_, (run_step _ _ _ rs _ n hn).1, ?_⟩
  rw [(ht.setRatio rs[n]).obs sn cs pi]
  refine ⟨rfl, rfl, rfl, ?_⟩
  rw [(ht.setRatio rs[n]).isExhausted_iff, floor_toNat_cast _ (posAt_nonneg rs hrs (n - 1)),
    one_le_sub_floor_iff]
  cases n <;> simp

/-- **What is left behind** (`source()`, `source_mut()`, `into_source()`): after ANY number of outputs at any
    ratios `> 0` the source the converter holds — and hands back — is the original source advanced by exactly
    the frames pulled so far, `p0 + ⌊P_(m-1)⌋` (the pulls for position `P_m` are made by the *next* output,
    none in advance, none given back), so the next frame it yields is source frame `p0 + ⌊P_(m-1)⌋`. -/
theorem into_source_continues (ip : Interp Rat S I) (eq : List S) (frames : List (List S)) (p0 : Nat) (ist0 : I)
    (ratio0 : Rat) (rs : List Rat) (hrs : ∀ r ∈ rs, 0 < r) :
    let left := (run AR ip eq rs ⟨⟨frames, p0⟩, ist0, 0, ratio0⟩).2.src
    let pulled := if rs = [] then 0 else ⌊posAt rs (rs.length - 1)⌋.toNat
    left = ⟨frames, p0 + pulled⟩ ∧ (left.next eq).1 = srcAt eq frames (p0 + pulled) := by
  have e := (run_final sn cs pi ip eq frames p0 ist0 rs (fun r hr => (hrs r hr).le) _ 0 0
    (Tracks.init ip eq frames p0 ist0 ratio0)).src_eq
  simp only [zero_add] at e
  exact ⟨e, congrArg (fun s => (Src.next eq s).1) e⟩

/-- ("never skipping or re-reading one") the frames the interpolator was fed up to output `n` are the
    source frames at positions `p0, p0+1, …` — the `j`-th one fed is source frame `p0 + j`: in source
    order, each exactly once. (Together with `converter_position`: exactly `⌊P_n⌋` of them.) -/
theorem fed_in_order_each_once (eq : List S) (frames : List (List S)) (p0 m j : Nat) (h : j < m) :
    (pulled eq frames p0 m).length = m ∧
    (pulled eq frames p0 m)[j]'(by rw [pulled_length]; exact h) = srcAt eq frames (p0 + j) :=
  ⟨pulled_length eq frames p0 m, pulled_getElem eq frames p0 m j h⟩

/-- ("with the source treated as equilibrium beyond its end") -/
theorem source_beyond_end (eq : List S) (frames : List (List S)) (i : Nat) (h : frames.length ≤ i) :
    srcAt eq frames i = eq := by
  simp [srcAt, List.getD, List.getElem?_eq_none h]

/-- ("the floor interpolator yields the source frame at floor(P_n)") `Floor::new(source.next())` on a
    fresh source, any ratios `≥ 0`: output `n` is source frame number `⌊P_n⌋`, whatever the sample
    format (frames are moved untouched). -/
theorem floor_output (eq : List S) (frames : List (List S)) (ratio0 : Rat) (rs : List Rat)
    (hrs : ∀ r ∈ rs, 0 ≤ r) (n : Nat) (hn : n < rs.length) :
    ∃ o, (run AR (floorInterp Rat S) eq rs ⟨⟨frames, 1⟩, srcAt eq frames 0, 0, ratio0⟩).1[n]? = some o ∧
      o.frame = srcAt eq frames ⌊posAt rs n⌋.toNat ∧ o.pulls = 1 + ⌊posAt rs n⌋.toNat := by
  obtain ⟨o, h1, h2, h3, _⟩ := converter_position sn cs pi (floorInterp Rat S) eq frames 1 (srcAt eq frames 0)
    ratio0 rs hrs n hn
  refine ⟨o, h1, ?_, h2⟩
  rw [h3, feed_floor]; rfl

/-- ("the linear interpolator yields the straight-line blend of the frames at floor(P_n) and floor(P_n)+1
    at fraction P_n - floor(P_n)") `Linear::new(source.next(), source.next())` on a fresh source, any
    ratios `≥ 0`, any sample codec: output `n` is, channel by channel,
    `((r_f − l_f)·x + l_f).to_sample()` with `l`, `r` the source frames `⌊P_n⌋`, `⌊P_n⌋+1` and
    `x = P_n − ⌊P_n⌋ ∈ [0,1)`. -/
theorem linear_output (C : Codec Rat S) (eq : List S) (frames : List (List S)) (ratio0 : Rat) (rs : List Rat)
    (hrs : ∀ r ∈ rs, 0 ≤ r) (n : Nat) (hn : n < rs.length) :
    ∃ o, (run AR (linearInterp AR C) eq rs
        ⟨⟨frames, 2⟩, (srcAt eq frames 0, srcAt eq frames 1), 0, ratio0⟩).1[n]? = some o ∧
      o.frame = List.zipWith (fun l r => C.ofF ((C.toF r - C.toF l) * (posAt rs n - ⌊posAt rs n⌋) + C.toF l))
        (srcAt eq frames ⌊posAt rs n⌋.toNat) (srcAt eq frames (⌊posAt rs n⌋.toNat + 1)) ∧
      0 ≤ posAt rs n - ⌊posAt rs n⌋ ∧ posAt rs n - ⌊posAt rs n⌋ < 1 ∧
      o.pulls = 2 + ⌊posAt rs n⌋.toNat := by
  obtain ⟨o, h1, h2, h3, _⟩ := converter_position sn cs pi (linearInterp AR C) eq frames 2
    (srcAt eq frames 0, srcAt eq frames 1) ratio0 rs hrs n hn
  refine ⟨o, h1, ?_, by linarith [Int.floor_le (posAt rs n)], by linarith [Int.lt_floor_add_one (posAt rs n)], h2⟩
  rw [h3, feed_linear]
  rfl

/-- ("never outside the interval spanned by those two frames (up to float rounding)") the blend as the f64 code
    computes it — `fl(fl(fl(r − l)·x) + l)`, one rounding after each of the three operations — for ANY rounding that
    is monotone, idempotent and fixes 0 (round-to-nearest-even is: `Dasp.Props.C19.softfloat_env_rounding`), a representable left
    sample `l` and `0 ≤ x ≤ 1`: the result never passes `l`, and on the side of `r` never passes `fl(fl(r − l) + l)`,
    the float recomputation of `r` itself (equal to `r` up to the two roundings in it, `Dasp.Envelope.Rounding.overshoot_bound`) -/
theorem linear_blend_between_rounded {rnd : Rat → Rat} (ok : Dasp.Envelope.Rounding.RndMono rnd) (l r x : Rat)
    (hl : rnd l = l) (h0 : 0 ≤ x) (h1 : x ≤ 1) :
    (l ≤ r → l ≤ rnd (rnd (rnd (r - l) * x) + l) ∧ rnd (rnd (rnd (r - l) * x) + l) ≤ rnd (rnd (r - l) + l)) ∧
    (r ≤ l → rnd (rnd (r - l) + l) ≤ rnd (rnd (rnd (r - l) * x) + l) ∧ rnd (rnd (rnd (r - l) * x) + l) ≤ l) := by
  -- the step `RndMono.blend` from `l` towards `l + (r − l)`, the code adding `l` on the right
  have h := ok.blend (t := r - l) hl h0 h1
  simp only [add_comm l] at h
  exact ⟨fun hle => h.1 (sub_nonneg.mpr hle), fun hle => h.2 (sub_nonpos.mpr hle)⟩

/-- in exact arithmetic (`rnd = id`) the bounds are `l` and `r` themselves, and they survive any sample
    format whose conversions to and from f64 are monotone and give `l` and `r` back -/
theorem blend_between_codec {S : Type} [LinearOrder S] (C : Codec Rat S) (hto : Monotone C.toF)
    (hof : Monotone C.ofF) {l r : S} (hl : C.ofF (C.toF l) = l) (hr : C.ofF (C.toF r) = r)
    (x : Rat) (h0 : 0 ≤ x) (h1 : x ≤ 1) :
    min l r ≤ C.ofF ((C.toF r - C.toF l) * x + C.toF l) ∧
    C.ofF ((C.toF r - C.toF l) * x + C.toF l) ≤ max l r := by
  have h := linear_blend_between_rounded (rnd := fun q => q) Dasp.Envelope.Rounding.rndMono_id
    (C.toF l) (C.toF r) x rfl h0 h1
  rw [sub_add_cancel] at h
  rcases le_total l r with hlr | hlr
  · obtain ⟨lo, hi⟩ := h.1 (hto hlr)
    rw [min_eq_left hlr, max_eq_right hlr]
    exact ⟨hl.symm.trans_le (hof lo), (hof hi).trans_eq hr⟩
  · obtain ⟨lo, hi⟩ := h.2 (hto hlr)
    rw [min_eq_right hlr, max_eq_left hlr]
    exact ⟨hr.symm.trans_le (hof lo), (hof hi).trans_eq hl⟩

/-- ("never outside the interval spanned by those two frames") f64-style frames in exact arithmetic
    (identity codec): the blend `(r − l)·x + l` with `0 ≤ x ≤ 1` equals `l + (r − l)·x` and lies between
    `l` and `r`. The f64 computation of the real code rounds `r − l`, the product and the sum once each;
    that deviation is what "up to float rounding" allows, and is measured by the harness. -/
theorem linear_blend_between (l r x : Rat) (h0 : 0 ≤ x) (h1 : x ≤ 1) :
    (idCodec Rat).ofF (((idCodec Rat).toF r - (idCodec Rat).toF l) * x + (idCodec Rat).toF l) = l + (r - l) * x ∧
    min l r ≤ l + (r - l) * x ∧ l + (r - l) * x ≤ max l r := by
  rw [add_comm l]
  exact ⟨rfl, blend_between_codec (idCodec Rat) monotone_id monotone_id rfl rfl x h0 h1⟩

/-- the same for `i16` frames (conversion to f64 = `/ 32768`, back = truncating saturating cast): the
    converted blend is an `i16` between the two samples — here with no rounding allowance at all. -/
theorem linear_blend_between_i16 (l r : Int) (hl : -32768 ≤ l ∧ l ≤ 32767) (hr : -32768 ≤ r ∧ r ≤ 32767)
    (x : Rat) (h0 : 0 ≤ x) (h1 : x ≤ 1) :
    min l r ≤ i16CodecRat.ofF ((i16CodecRat.toF r - i16CodecRat.toF l) * x + i16CodecRat.toF l) ∧
    i16CodecRat.ofF ((i16CodecRat.toF r - i16CodecRat.toF l) * x + i16CodecRat.toF l) ≤ max l r :=
  blend_between_codec i16CodecRat
    (fun _ _ hab => div_le_div_of_nonneg_right (Int.cast_le.mpr hab) (by norm_num)) (fun _ _ => i16_ofF_mono)
    (i16_roundtrip l hl.1 hl.2) (i16_roundtrip r hr.1 hr.2) x h0 h1

/-- at ratio exactly 1 output `n` sits on source position `n`: `n` pulls, fraction `0`, for every interpolator -/
theorem ratio_one_position (ip : Interp Rat S I) (eq : List S) (frames : List (List S)) (p0 : Nat) (ist0 : I)
    (ratio0 : Rat) (m n : Nat) (hn : n < m) :
    ∃ o, (run AR ip eq (List.replicate m 1) ⟨⟨frames, p0⟩, ist0, 0, ratio0⟩).1[n]? = some o ∧
      o.pulls = p0 + n ∧ o.frame = ip.eval (feed ip ist0 (pulled eq frames p0 n)) 0 := by
  obtain ⟨o, h1, h2, h3, -⟩ := converter_position sn cs pi ip eq frames p0 ist0 ratio0 (List.replicate m 1)
    (replicate_nonneg m zero_le_one) n (by simpa using hn)
  rw [posAt_replicate 1 m n (le_of_lt hn), mul_one] at h2 h3
  simp only [Int.floor_natCast, Int.toNat_natCast, Int.cast_natCast, sub_self] at h2 h3
  exact ⟨o, h1, h2, h3⟩

/-- ("A ratio of exactly 1 reproduces the source unchanged") floor interpolator: output `n` is source
    frame `n` (equilibrium past the end), one pull per output. -/
theorem ratio_one_floor (eq : List S) (frames : List (List S)) (ratio0 : Rat) (m n : Nat) (hn : n < m) :
    ∃ o, (run AR (floorInterp Rat S) eq (List.replicate m 1)
        ⟨⟨frames, 1⟩, srcAt eq frames 0, 0, ratio0⟩).1[n]? = some o ∧
      o.frame = srcAt eq frames n ∧ o.pulls = 1 + n := by
  obtain ⟨o, h1, h2, h3⟩ := ratio_one_position sn cs pi (floorInterp Rat S) eq frames 1 (srcAt eq frames 0)
    ratio0 m n hn
  exact ⟨o, h1, by rw [h3, feed_floor]; rfl, h2⟩

/-- ("A ratio of exactly 1 reproduces the source unchanged") linear interpolator, any sample format whose
    conversion to f64 and back is the identity on every value of the sample type (`f64`: `idCodec`; the
    `i16` codec round-trips the `i16` range only, `i16_roundtrip`, so it is not an instance as `S = Int`
    stands): output `n` is source frame `n`, provided the two neighbouring frames have the same number of
    channels (they always do in Rust). -/
theorem ratio_one_linear (C : Codec Rat S) (hC : ∀ v, C.ofF (C.toF v) = v)
    (eq : List S) (frames : List (List S)) (ratio0 : Rat) (m n : Nat) (hn : n < m)
    (hch : (srcAt eq frames n).length ≤ (srcAt eq frames (n + 1)).length) :
    ∃ o, (run AR (linearInterp AR C) eq (List.replicate m 1)
        ⟨⟨frames, 2⟩, (srcAt eq frames 0, srcAt eq frames 1), 0, ratio0⟩).1[n]? = some o ∧
      o.frame = srcAt eq frames n := by
  obtain ⟨o, h1, -, h3⟩ := ratio_one_position sn cs pi (linearInterp AR C) eq frames 2
    (srcAt eq frames 0, srcAt eq frames 1) ratio0 m n hn
  refine ⟨o, h1, ?_⟩
  rw [h3, feed_linear]
  simp only [linearInterp, rat_sub, rat_mul, rat_add, mul_zero, zero_add, hC]
  -- keeping the left of each pair, against a frame at least as long: the first projection of the zip
  exact (List.map_zipWith (f := Prod.fst) (g := Prod.mk)).symm.trans (List.map_fst_zip hch)

/-- ("so for a constant ratio r a finite source yields ceil((R+1)/r) output frames, or one more, where R is
    the number of frames the source still held after the interpolator was primed") any interpolator, any
    priming `p0`, constant ratio `r > 0`, `R = frames.length − p0`: `until_exhausted().count()` is
    `⌈(R+1)/r⌉` or `⌈(R+1)/r⌉ + 1` (fuel only has to allow that many outputs). -/
theorem until_exhausted_count (ip : Interp Rat S I) (eq : List S) (frames : List (List S)) (p0 : Nat) (ist0 : I)
    (r : Rat) (hr : 0 < r) (fuel : Nat) (hfuel : ⌈((frames.length - p0 : Nat) + 1 : Rat) / r⌉₊ + 1 ≤ fuel) :
    countUntil AR ip eq fuel ⟨⟨frames, p0⟩, ist0, 0, r⟩ = ⌈((frames.length - p0 : Nat) + 1 : Rat) / r⌉₊ ∨
    countUntil AR ip eq fuel ⟨⟨frames, p0⟩, ist0, 0, r⟩ = ⌈((frames.length - p0 : Nat) + 1 : Rat) / r⌉₊ + 1 := by
  obtain ⟨hno, hnext, -⟩ := exh_ceil r hr (frames.length - p0)
  -- `c` if exhaustion is reported before output `c`, and `c + 1` if the step to `c` jumped over `R`
  by_cases hc : Exh r (frames.length - p0) ⌈((frames.length - p0 : Nat) + 1 : Rat) / r⌉₊
  · exact .inl (countUntil_first sn cs pi ip eq frames p0 ist0 r hr.le fuel _ (by omega) hno hc)
  · refine .inr (countUntil_first sn cs pi ip eq frames p0 ist0 r hr.le fuel _ hfuel (fun j hj => ?_) (hnext hc))
    rcases Nat.lt_succ_iff_lt_or_eq.mp hj with h | rfl
    · exact hno j h
    · exact hc

/-- which of the two counts: for a ratio `r ≤ 1` (up-sampling or unity) it is always exactly `⌈(R+1)/r⌉` -/
theorem until_exhausted_count_le_one (ip : Interp Rat S I) (eq : List S) (frames : List (List S)) (p0 : Nat)
    (ist0 : I) (r : Rat) (hr : 0 < r) (hr1 : r ≤ 1) (fuel : Nat)
    (hfuel : ⌈((frames.length - p0 : Nat) + 1 : Rat) / r⌉₊ ≤ fuel) :
    countUntil AR ip eq fuel ⟨⟨frames, p0⟩, ist0, 0, r⟩ = ⌈((frames.length - p0 : Nat) + 1 : Rat) / r⌉₊ :=
  countUntil_first sn cs pi ip eq frames p0 ist0 r hr.le fuel _ hfuel (exh_ceil r hr _).1 ((exh_ceil r hr _).2.2 hr1)

/-- the exhaustion condition in the property's words, constant ratio: `is_exhausted()` after `n` outputs
    holds iff `n ≥ 1`, the `R` remaining source frames have all been pulled (`R ≤ ⌊(n−1)r⌋`) and the next
    output needs a further one (`⌊(n−1)r⌋ < ⌊n r⌋`). -/
theorem is_exhausted_constant_ratio (ip : Interp Rat S I) (eq : List S) (frames : List (List S)) (p0 : Nat)
    (ist0 : I) (r : Rat) (hr : 0 < r) (n : Nat) :
    isExhausted AR (iter AR ip eq n ⟨⟨frames, p0⟩, ist0, 0, r⟩) = true ↔
      1 ≤ n ∧ ((frames.length - p0 : Nat) : Int) ≤ ⌊((n : Rat) - 1) * r⌋ ∧ ⌊((n : Rat) - 1) * r⌋ < ⌊(n : Rat) * r⌋ :=
  isExhausted_iter_iff sn cs pi ip eq frames p0 ist0 r (le_of_lt hr) n

/-- the ratio constructors: `from_hz_to_hz(s, t)` = `scale_playback_hz(s / t)`,
    `scale_sample_hz(x)` = `scale_playback_hz(1 / x)`; construction succeeds exactly for a ratio `> 0`
    and starts at position 0 -/
theorem constructors (src : Src S) (ist : I) (a b x : Rat) :
    fromHzToHz AR src ist a b = scalePlaybackHz AR src ist (a / b) ∧
    scaleSampleHz AR src ist x = scalePlaybackHz AR src ist (1 / x) ∧
    (0 < x → scalePlaybackHz AR src ist x = some ⟨src, ist, 0, x⟩) ∧
    (¬ 0 < x → scalePlaybackHz AR src ist x = none) := by
  refine ⟨rfl, rfl, ?_, ?_⟩ <;> intro h <;> simp [scalePlaybackHz, h]

/-! ## Non-vacuity: the hypotheses instantiated on concrete, non-trivial runs -/

/-- ratios 3/4, 3/2, 5/2 (`mul_hz`-style): P_3 = 19/4, so output 3 of the floor converter is source frame 4
    (five pulls in all) out of a 6-frame source -/
example : ∃ o, (run (ratArith id id 3) (floorInterp Rat Rat) [0] [3/4, 3/2, 5/2, 1]
      ⟨⟨[[(10 : Rat)], [11], [12], [13], [14], [15]], 1⟩, [(10 : Rat)], 0, 1⟩).1[3]? = some o ∧
    o.frame = [(14 : Rat)] ∧ o.pulls = 5 := by
  obtain ⟨o, h1, h2, h3⟩ := floor_output id id 3 [0] [[(10 : Rat)], [11], [12], [13], [14], [15]] 1 [3/4, 3/2, 5/2, 1]
    (by intro r hr; simp at hr; rcases hr with h | h | h | h <;> rw [h] <;> norm_num) 3 (by simp)
  have hp : posAt [3/4, 3/2, 5/2, 1] 3 = 19/4 := by norm_num [posAt]
  have hf : ⌊(19/4 : Rat)⌋ = 4 := by rw [Int.floor_eq_iff]; norm_num
  rw [hp, hf] at h2 h3
  exact ⟨o, h1, by simpa [srcAt] using h2, by simpa using h3⟩

/-- 3 frames left after priming a floor interpolator, ratio 3/4: ⌈4 / (3/4)⌉ = 6 outputs or 7 -/
example : countUntil (ratArith id id 3) (floorInterp Rat Rat) [0] 100 ⟨⟨[[1], [2], [3], [4]], 1⟩, [1], 0, 3/4⟩ = 6 ∨
    countUntil (ratArith id id 3) (floorInterp Rat Rat) [0] 100 ⟨⟨[[1], [2], [3], [4]], 1⟩, [1], 0, 3/4⟩ = 7 := by
  have hc : ⌈(((4 - 1 : Nat) : Rat) + 1) / (3/4)⌉₊ = 6 := by
    rw [Nat.ceil_eq_iff (by norm_num)]; norm_num
  have := until_exhausted_count id id 3 (floorInterp Rat Rat) [0] [[1], [2], [3], [4]] 1 [1] (3/4) (by norm_num) 100
    (by simp only [List.length_cons, List.length_nil]; rw [hc]; norm_num)
  simp only [List.length_cons, List.length_nil] at this
  rw [hc] at this
  exact this

/-- i16 samples −300 and 200 blended at x = 1/3 stay between them -/
example : min (-300 : Int) 200 ≤ i16CodecRat.ofF ((i16CodecRat.toF 200 - i16CodecRat.toF (-300)) * (1/3) + i16CodecRat.toF (-300)) ∧
    i16CodecRat.ofF ((i16CodecRat.toF 200 - i16CodecRat.toF (-300)) * (1/3) + i16CodecRat.toF (-300)) ≤ max (-300 : Int) 200 :=
  linear_blend_between_i16 (-300) 200 (by norm_num) (by norm_num) (1/3) (by norm_num) (by norm_num)

end Dasp.Conv
