import Dasp.Gen.AllocVocab
import Dasp.Model.Alloc
import Dasp.Props.C13
import Dasp.Props.C09
/-!
# C07 — no heap allocation in steady state (level: other / partial)

Property text (properties.jsonl, C07): once constructed, no operation of the sample, frame,
borrowed-slice, ring-buffer, peak, RMS, envelope, interpolation, window and signal APIs
allocates, reallocates or frees heap memory; the only exceptions are the documented or
inherently owning ones: the bus (whose backlog nevertheless stops growing once its outputs
are pulled in step), reference-counted fork branches at creation, boxed-slice conversions,
and user-supplied heap-backed storage, which is never resized.  Graph processing with the
stock nodes allocates nothing once a processor has processed a graph of that size once.

A theorem cannot observe an allocator.  What *is* logic is stated and proved here; the
allocation counts themselves are measured by the allocator-instrumented harness against the
modelled effect (`Model/Alloc.lean`) — that part is exploration and the evidence says so.

(a) lexical: every occurrence of the allocating vocabulary (`Vec`, `Box`, `Rc`, `vec!`,
    `.collect`, `to_vec`, `alloc::`, … — translator/alloc_allow.json) in the source files of
    the allocation-free crates, *as scanned from /repo on this run*, lies in an item of the
    committed allow-list (type aliases, `Slice` impls for user storage, `bus.rs`, `by_rc`,
    the `boxed` modules).  A temporary `Vec` introduced in an adaptor breaks this obligation.
(b) growable containers: the bus backlog never exceeds the largest lag of a live output, so
    lock-step pulling keeps it bounded; a repeated `process` call performs the identical traversal.
(c) the modelled steady-state allocation effect of every catalogue family is zero.
-/
namespace Dasp.Props.C07
open Dasp Dasp.Gen.Alloc Dasp.Model.Alloc

/-- (a) every occurrence of the allocating vocabulary is covered by the allow-list -/
theorem vocab_covered : occurrences.all covered = true := by decide

/-- the scan is not vacuous, by count only: the known occurrences (ring-buffer storage impls, `Rc`, bus,
    boxed) come to at least these numbers -/
example : 40 ≤ occurrences.length ∧ 30 ≤ filesScanned := by decide

section bus
variable {α : Type}
open Dasp.Bus

/-- (b) the bus backlog holds at most as many frames as the slowest live output lags behind:
    if every live output is within `L` frames of the source position, the backlog has at most
    `L` frames — so outputs pulled in step (lag ≤ 1 between pulls) keep it from growing, and it
    is empty when none is live. -/
theorem bus_backlog_bounded_by_max_lag (src : Nat → α) (s : St α) (hi : Inv src s) (L : Nat)
    (hlag : ∀ k c, cursor s k = some c → s.pos - c ≤ L) : backlogLen s ≤ L := by
  obtain ⟨_, hlen, _⟩ := Dasp.Bus.backlog_is_exactly_what_the_slowest_needs src s hi
  rw [hlen]
  rcases base_eq_pos_or_attained hi with hb | ⟨k, hk⟩
  · rw [hb]; omega
  · exact hlag k _ hk
end bus

/-- (b) graph processor: a second `process` call on the same graph and processor performs exactly
    the same traversal (same nodes, same inputs, same order), so every container whose size is a
    function of the traversal (DFS stack, visit maps, input list) needs no more capacity than the
    first call established (`Vec`/`FixedBitSet` never shrink: assumed, see trusted base) -/
theorem graph_second_call_same_traversal {β : Type} (F : Nat → List β → β) (g : Dasp.Graph.PG)
    (hwf : g.WF) (p : Dasp.Graph.Proc) (hp : p.Ok) (buf : Nat → β) (root : Nat)
    (hr : root < g.bound) (hl : g.live root = true) :
    ∃ r r2, Dasp.Graph.process F g p buf root = some r ∧
      Dasp.Graph.process F g r.proc r.buf root = some r2 ∧ r2.log = r.log := by
  obtain ⟨r, r2, h1, h2, h3, _⟩ := Dasp.Props.C09.process_twice F g hwf p hp buf root hr hl
  exact ⟨r, r2, h1, h2, h3⟩

-- String literals are compared byte by byte after UTF-8 encoding; the elaborator's evaluation of such a
-- term costs three times the kernel's, hence `+kernel` here and for "not-in-catalogue" below.
theorem boxed_not_steady : "slice.boxed_failed_conversion_releases" ∉ steadyFamilies := by decide +kernel

/-- `effectOf` gives every member of the catalogue effect zero; the one name with another effect is not a member -/
theorem effectOf_steady {f : String} (h : f ∈ steadyFamilies) : effectOf f = some Effect.none := by
  have hne : f ≠ "slice.boxed_failed_conversion_releases" := fun e => boxed_not_steady (e ▸ h)
  simp [effectOf, hne, h]

/-- (c) every steady-state family of the catalogue has modelled allocation effect zero -/
theorem catalogue_effect_zero : steadyFamilies.all (fun f => effectOf f == some Effect.none) = true :=
  List.all_eq_true.mpr fun f hf => by rw [effectOf_steady hf]; rfl

/-- the documented owning case: a failed boxed conversion frees exactly once, allocates nothing -/
example : effectOf "slice.boxed_failed_conversion_releases" = some ⟨0, 0, 1⟩ := by decide
example : effectOf "not-in-catalogue" = none := by decide +kernel

end Dasp.Props.C07
