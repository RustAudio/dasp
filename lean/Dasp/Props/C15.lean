import Dasp.Lemmas.Types
/-!
# C15 — custom-width integer sample types never silently leave their range

Property text (properties.jsonl, C15): for the 11-, 20-, 24- and 48-bit signed and unsigned
sample types, checked construction succeeds exactly for in-range values, conversion from the
backing integer wraps modulo 2^bits into range, the widening From impls preserve the numeric
value, and ordering/equality coincide with numeric order.  Addition, subtraction and
multiplication of in-range values, and negation of signed ones, produce the result wrapped
modulo 2^bits into range in builds without debug assertions and panic on overflow in builds
with them; in neither build do they return a value outside [MIN, MAX].

`Dasp.Gen.Types.macroDef` holds the bodies of `new_sample_type!` / `impl_neg!` / `impl_from!`
and `Dasp.Gen.Types.all` the eight instantiations, both *regenerated from
/repo/dasp_sample/src/types.rs on every run*; their meaning is `Dasp/Machine/TypesSem.lean`
(`opRun … dbg … = none` is a panic; `dbg = true` is the build with debug assertions, in which
— stated assumption — backing-type overflow checks are on as well).  `wrapT ts v` is the
specification "v wrapped modulo TOTAL into [MIN, MAX]".  The generic lemmas are in
`Lemmas/Types.lean`; this file instantiates them at the eight records (`wf_all`, `wfFrom_all`) and
states the property theorems with their non-vacuity examples.
-/
namespace Dasp.Props.C15
open Dasp Dasp.Types Dasp.Gen.Types

/-- exactly the eight types of the property, in this order -/
theorem all_eq : all = [I11, I20, I24, I48, U11, U20, U24, U48] := rfl

theorem I11_mem_all : I11 ∈ all := by simp [all]
theorem I24_mem_all : I24 ∈ all := by simp [all]
theorem I48_mem_all : I48 ∈ all := by simp [all]
theorem U11_mem_all : U11 ∈ all := by simp [all]

theorem wf_all : ∀ ts ∈ all, WF ts := by decide

theorem wfFrom_all : ∀ ts ∈ all, wfFromB all ts = true := by decide

/-- the constants are those of the property: TOTAL = 2^bits, signed range [−2^(bits−1), 2^(bits−1)−1],
    unsigned range [0, 2^bits − 1] (so `wrapT` is "wrapped modulo 2^bits into range") -/
theorem constants :
    (I11.total = 2 ^ 11 ∧ I11.min = -2 ^ 10 ∧ I11.max = 2 ^ 10 - 1) ∧
    (I20.total = 2 ^ 20 ∧ I20.min = -2 ^ 19 ∧ I20.max = 2 ^ 19 - 1) ∧
    (I24.total = 2 ^ 24 ∧ I24.min = -2 ^ 23 ∧ I24.max = 2 ^ 23 - 1) ∧
    (I48.total = 2 ^ 48 ∧ I48.min = -2 ^ 47 ∧ I48.max = 2 ^ 47 - 1) ∧
    (U11.total = 2 ^ 11 ∧ U11.min = 0 ∧ U11.max = 2 ^ 11 - 1) ∧
    (U20.total = 2 ^ 20 ∧ U20.min = 0 ∧ U20.max = 2 ^ 20 - 1) ∧
    (U24.total = 2 ^ 24 ∧ U24.min = 0 ∧ U24.max = 2 ^ 24 - 1) ∧
    (U48.total = 2 ^ 48 ∧ U48.min = 0 ∧ U48.max = 2 ^ 48 - 1) := by decide

/-- `Neg` exists for the signed 11/24/48-bit types and for U11 (types.rs `impl_neg!` lines) -/
theorem neg_impls : all.map (·.hasNeg) = [true, false, true, true, true, false, false, false] := by decide

/-! ### "checked construction succeeds exactly for in-range values" -/

theorem new_iff (ts : TypeSpec) (v r : Int) :
    newRun ts macroDef v = some r ↔ (ts.min ≤ v ∧ v ≤ ts.max) ∧ r = v := by
  rw [(new_spec ts v).1]; unfold TypeSpec.inRange
  by_cases h : ts.min ≤ v ∧ v ≤ ts.max <;> simp [h, eq_comm]

theorem new_none_iff (ts : TypeSpec) (v : Int) :
    newRun ts macroDef v = none ↔ ¬ (ts.min ≤ v ∧ v ≤ ts.max) := by
  rw [(new_spec ts v).1]; unfold TypeSpec.inRange
  by_cases h : ts.min ≤ v ∧ v ≤ ts.max <;> simp [h]

/-! ### "conversion from the backing integer wraps modulo 2^bits into range"
    (and the two `while` loops terminate, without overflow, in both builds) -/

theorem from_wraps (ts : TypeSpec) (hts : ts ∈ all) (dbg : Bool) (v : Int) (hv : ts.rep.inRange v) :
    fromRun ts macroDef dbg v = some (wrapT ts v) ∧ ts.inRange (wrapT ts v) ∧
    (∃ k : Int, wrapT ts v = v + k * ts.total) ∧ (ts.inRange v → wrapT ts v = v) :=
  ⟨fromRun_spec ts (wf_all ts hts) dbg v hv, wrapT_inRange ts (wf_all ts hts) v, wrapT_congr ts v,
   wrapT_id ts (wf_all ts hts) v⟩

/-! ### "the widening From impls preserve the numeric value" -/

/-- both `impl_from!` arms are `$T(other as $Rep)`: exact on any value inside the target's range -/
theorem widen_spec (ts : TypeSpec) (wf : WF ts) (dbg : Bool) (v : Int) (hv : ts.inRange v) :
    opRun ts macroDef dbg ⟨0, v, 0⟩ (.mk (.asRep .other0)) = some v := by
  obtain ⟨hlo, hhi⟩ := wf.range_fits
  have hw : ts.rep.wrap v = v := ITy.wrap_of_inRange ⟨hlo.trans hv.1, hv.2.trans hhi⟩
  cases dbg <;> simp [opRun, opOk, opVal, okB, valB, valE, okE, hw]

/-- `impl From<p> for T`, `p` a primitive in T's `from:` list -/
theorem widening_prim (ts : TypeSpec) (hts : ts ∈ all) (p : ITy) (hp : p ∈ ts.fromPrims) (dbg : Bool)
    (v : Int) (hv : p.inRange v) :
    opRun ts macroDef dbg ⟨0, v, 0⟩ macroDef.fromPrim = some v ∧ ts.inRange v := by
  have hf := wfFrom_all ts hts
  simp only [wfFromB, Bool.and_eq_true, List.all_eq_true, decide_eq_true_eq] at hf
  have hin : ts.inRange v := ⟨(hf.1 p hp).1.trans hv.1, hv.2.trans (hf.1 p hp).2⟩
  exact ⟨widen_spec ts (wf_all ts hts) dbg v hin, hin⟩

/-- `impl From<U> for T`, `{U:URep}` a custom type in T's `from:` list, for an in-range `U` -/
theorem widening_custom (ts : TypeSpec) (hts : ts ∈ all) (i : Nat) (urep : ITy) (hi : (i, urep) ∈ ts.fromCustom)
    (src : TypeSpec) (hsrc : all[i]? = some src) (dbg : Bool) (v : Int) (hv : src.inRange v) :
    src.rep = urep ∧ opRun ts macroDef dbg ⟨0, v, 0⟩ macroDef.fromCustom = some v ∧ ts.inRange v := by
  have hf := wfFrom_all ts hts
  simp only [wfFromB, Bool.and_eq_true, List.all_eq_true, decide_eq_true_eq] at hf
  have hr := hf.2 (i, urep) hi
  simp only [hsrc, Bool.and_eq_true, decide_eq_true_eq] at hr
  have hin : ts.inRange v := ⟨hr.1.2.trans hv.1, hv.2.trans hr.2⟩
  exact ⟨hr.1.1, widen_spec ts (wf_all ts hts) dbg v hin, hin⟩

/-! ### "ordering/equality coincide with numeric order"
    (`#[derive(PartialEq, Eq, PartialOrd, Ord)]` on the single-field struct: *modelled* as the
    comparison of the field; the derive list and the single field are checked by the translator,
    the behaviour by the correspondence stream) -/

theorem ord_derived : ∀ ts ∈ all, ts.ordDerived = true := by decide

theorem cmp_numeric (a b : Int) :
    (cmpT a b = .lt ↔ a < b) ∧ (cmpT a b = .eq ↔ a = b) ∧ (cmpT a b = .gt ↔ b < a) ∧ (eqT a b = true ↔ a = b) := by
  exact ⟨Int.compare_eq_lt, Int.compare_eq_eq, Int.compare_eq_gt, by simp [eqT]⟩

/-! ### add / sub / mul / neg on in-range operands: `opSpec` of the exact result

release (`dbg = false`): the exact result wrapped modulo TOTAL into range;
debug (`dbg = true`): the exact result if it is in range, otherwise a panic. -/

theorem add_spec (ts : TypeSpec) (wf : WF ts) (dbg : Bool) (a b : Int) (ha : ts.inRange a) (hb : ts.inRange b) :
    opRun ts macroDef dbg ⟨a, b, 0⟩ macroDef.add = opSpec ts dbg (a + b) := by
  have htot := wf.total_eq
  obtain ⟨h1, h2⟩ := wf.add_fits
  obtain ⟨h3, h4⟩ := wf.zero_inRange
  unfold TypeSpec.inRange at ha hb
  exact arith_once_spec ts wf dbg _ (.add .self0 .other0) (a + b) rfl (by simp [okE, valE]) (by omega)

theorem sub_spec (ts : TypeSpec) (wf : WF ts) (dbg : Bool) (a b : Int) (ha : ts.inRange a) (hb : ts.inRange b) :
    opRun ts macroDef dbg ⟨a, b, 0⟩ macroDef.sub = opSpec ts dbg (a - b) := by
  have htot := wf.total_eq
  obtain ⟨h1, h2⟩ := wf.sub_fits
  obtain ⟨h3, h4⟩ := wf.zero_inRange
  unfold TypeSpec.inRange at ha hb
  exact arith_once_spec ts wf dbg _ (.sub .self0 .other0) (a - b) rfl (by simp [okE, valE]) (by omega)

/-- for `mul` the product may wrap around in the backing type first (release); that is
    harmless because TOTAL ∣ 2^repbits (`wrapT_repwrap`), and the full `wrap_overflow` loops
    bring any backing-type value into range -/
theorem mul_spec (ts : TypeSpec) (wf : WF ts) (dbg : Bool) (a b : Int) :
    opRun ts macroDef dbg ⟨a, b, 0⟩ macroDef.mul = opSpec ts dbg (a * b) := by
  have hm : macroDef.mul = .ifDebug (.newExpect (.mul .self0 .other0)) (.fromRep (.mul .self0 .other0)) := rfl
  rw [hm, opRun_ifDebug]
  cases dbg
  · exact fromRep_release ts wf _ _ (a * b) rfl
  · exact newExpect_debug ts wf _ _ (a * b) rfl (by simp [okE, valE])

/-- `Neg` (`impl_neg!`): the body on any record with `WF`, signed or not, whether or not the type
    has the impl (`neg_impls` says which do) -/
theorem neg_spec (ts : TypeSpec) (wf : WF ts) (dbg : Bool) (a : Int) (ha : ts.inRange a) :
    opRun ts macroDef dbg ⟨a, 0, 0⟩ macroDef.neg = opSpec ts dbg (-a) := by
  have htot := wf.total_eq
  obtain ⟨h1, h2⟩ := wf.neg_fits
  obtain ⟨h3, h4⟩ := wf.zero_inRange
  unfold TypeSpec.inRange at ha
  exact arith_once_spec ts wf dbg _ (.neg .self0) (-a) rfl (by simp [okE, valE]) (by omega)

/-- negation of the signed types: −MIN is the one overflow (wraps to MIN / panics), every other
    in-range value is negated exactly in both builds -/
theorem neg_signed (ts : TypeSpec) (hts : ts ∈ all) (hs : ts.min = -ts.max - 1) (a : Int) (ha : ts.inRange a) :
    (a ≠ ts.min → ∀ dbg, opRun ts macroDef dbg ⟨a, 0, 0⟩ macroDef.neg = some (-a)) ∧
    (a = ts.min → opRun ts macroDef false ⟨a, 0, 0⟩ macroDef.neg = some ts.min ∧
                  opRun ts macroDef true ⟨a, 0, 0⟩ macroDef.neg = none) := by
  have wf := wf_all ts hts
  have h := fun dbg => neg_spec ts wf dbg a ha
  have htot := wf.total_eq
  unfold TypeSpec.inRange at ha
  constructor
  · intro hne dbg
    have hin : ts.inRange (-a) := by unfold TypeSpec.inRange; omega
    rw [h, opSpec]
    cases dbg
    · exact congrArg some (wrapT_id ts wf _ hin)
    · exact (if_pos rfl).trans (if_pos hin)
  · intro he
    have hout : ¬ ts.inRange (-a) := by unfold TypeSpec.inRange; omega
    refine ⟨?_, by rw [h, opSpec, if_pos rfl, if_neg hout]⟩
    rw [h]
    exact congrArg some
      (wrapT_unique ts wf (-a) ts.min (-1) (by unfold TypeSpec.inRange; omega) (by omega)).symm

/-- what `Neg` does on U11 (the one unsigned type with `impl_neg!`; the property's wrap/panic clause
    only speaks of signed negation): release: 0 ↦ 0, v ↦ 2048 − v; debug: panics unless v = 0 -/
theorem neg_U11 (a : Int) (ha : U11.inRange a) :
    opRun U11 macroDef false ⟨a, 0, 0⟩ macroDef.neg = some (if a = 0 then 0 else 2048 - a) ∧
    opRun U11 macroDef true ⟨a, 0, 0⟩ macroDef.neg = (if a = 0 then some 0 else none) := by
  have wf : WF U11 := wf_all U11 U11_mem_all
  have h := fun dbg => neg_spec U11 wf dbg a ha
  have hc : U11.min = 0 ∧ U11.max = 2047 ∧ U11.total = 2048 := by decide
  unfold TypeSpec.inRange at ha
  rw [h, h]
  by_cases h0 : a = 0
  · subst h0; simp only [if_true]
    exact ⟨by decide, by decide⟩
  · simp only [h0, if_false]
    constructor
    · exact congrArg some
        (wrapT_unique U11 wf (-a) (2048 - a) 1 (by unfold TypeSpec.inRange; omega) (by rw [hc.2.2]; ring)).symm
    · exact (if_pos rfl).trans (if_neg (by unfold TypeSpec.inRange; omega))

/-! ### "in neither build do they return a value outside [MIN, MAX]" -/

theorem never_out_of_range (ts : TypeSpec) (hts : ts ∈ all) (dbg : Bool) (a b : Int)
    (ha : ts.inRange a) (hb : ts.inRange b) (r : Int) :
    (opRun ts macroDef dbg ⟨a, b, 0⟩ macroDef.add = some r → ts.inRange r) ∧
    (opRun ts macroDef dbg ⟨a, b, 0⟩ macroDef.sub = some r → ts.inRange r) ∧
    (opRun ts macroDef dbg ⟨a, b, 0⟩ macroDef.mul = some r → ts.inRange r) ∧
    (opRun ts macroDef dbg ⟨a, 0, 0⟩ macroDef.neg = some r → ts.inRange r) := by
  have wf := wf_all ts hts
  exact ⟨fun h => opSpec_inRange ts wf dbg _ r ((add_spec ts wf dbg a b ha hb).symm.trans h),
    fun h => opSpec_inRange ts wf dbg _ r ((sub_spec ts wf dbg a b ha hb).symm.trans h),
    fun h => opSpec_inRange ts wf dbg _ r ((mul_spec ts wf dbg a b).symm.trans h),
    fun h => opSpec_inRange ts wf dbg _ r ((neg_spec ts wf dbg a ha).symm.trans h)⟩

/-! ### `impl_neg!` before /repo commit 53a6bcd ("fix: negating a custom-width sample keeps the result in range")

Its body was `$T(-self.0)` in both builds, i.e. `Body.mk (.neg .self0)`; the two theorems evaluate that body. -/

/-- `-I24::MIN` returned 8 388 608 > MAX, in both builds -/
theorem old_neg_leaves_range_I24 (dbg : Bool) :
    I24.inRange I24.min ∧ opRun I24 macroDef dbg ⟨I24.min, 0, 0⟩ (.mk (.neg .self0)) = some 8388608 ∧
    ¬ I24.inRange 8388608 := by
  cases dbg <;> decide

/-- `-I11::MIN` returned 1024 > MAX, `-U11(5)` returned −5 < MIN, in both builds -/
theorem old_neg_leaves_range_11 (dbg : Bool) :
    opRun I11 macroDef dbg ⟨I11.min, 0, 0⟩ (.mk (.neg .self0)) = some 1024 ∧ ¬ I11.inRange 1024 ∧
    opRun U11 macroDef dbg ⟨5, 0, 0⟩ (.mk (.neg .self0)) = some (-5) ∧ ¬ U11.inRange (-5) := by
  cases dbg <;> decide

/-! ### non-vacuity: concrete non-trivial instances of every hypothesis, and the specification
    is the intended function on concrete points (tests of the *statements*) -/

example : I24.inRange 8388607 ∧ I24.inRange (-5) ∧ I24.rep.inRange 2147483647 := by decide
example : wrapT I24 (8388607 + 1) = -8388608 := by decide
example : wrapT I11 (1023 * 1023) = 1 := by decide
example : wrapT U48 (-1) = 281474976710655 := by decide
example : opRun I11 macroDef false ⟨1023, 1023, 0⟩ macroDef.mul = some 1 := by
  rw [mul_spec I11 (wf_all _ I11_mem_all) false 1023 1023]; decide
example : opRun I11 macroDef true ⟨1023, 1023, 0⟩ macroDef.mul = none := by
  rw [mul_spec I11 (wf_all _ I11_mem_all) true 1023 1023]; decide
example : opRun I48 macroDef true ⟨140737488355327, -140737488355328, 0⟩ macroDef.add = some (-1) := by
  rw [add_spec I48 (wf_all _ I48_mem_all) true _ _ (by decide) (by decide)]; decide
example : fromRun I11 macroDef true 32767 = some (-1) := by
  rw [(from_wraps I11 I11_mem_all true 32767 (by decide)).1]; decide
example : newRun U20 macroDef 1048575 = some 1048575 ∧ newRun U20 macroDef 1048576 = none := by
  constructor
  · rw [new_iff]; decide
  · rw [new_none_iff]; decide
example : (.i16 : ITy) ∈ I20.fromPrims ∧ (0, ITy.i16) ∈ I20.fromCustom ∧ all[0]? = some I11 :=
  ⟨by decide, by decide, rfl⟩
example : opRun I24 macroDef false ⟨I24.min, 0, 0⟩ macroDef.neg = some I24.min :=
  ((neg_signed I24 I24_mem_all (by decide) I24.min (by decide)).2 rfl).1

end Dasp.Props.C15
