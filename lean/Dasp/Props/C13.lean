import Dasp.Lemmas.Bus
/-! # C13 — Bus feeds every output a gap-free stream and retains only what laggards need

Property text (properties.jsonl, C13): "For any interleaving of attaching outputs, pulling from outputs
and dropping outputs, each output observes exactly the contiguous run of source frames that begins with
the first frame nobody had pulled when it was attached, in order, without loss or duplication, and its
pending count equals the number of frames already pulled from the source that it has not yet received.
The source is pulled exactly once per distinct frame, and the bus's internal backlog always holds exactly
the pulled frames that the slowest live output has not yet received, so it is empty whenever all live
outputs have caught up or none remain."

Model: `Dasp/Model/Bus.lean` (`send`, `nextFrame`, `pendingFrames`, `dropOutput` transcribe bus.rs;
executed by `driver_c13` against the real code). `src i` is the frame the source yields on its `i`-th
pull and `St.pos` counts the pulls, so the pulled frames are exactly `src 0 … src (pos-1)`, each pulled
once. Specification `Abs`: every live output `k` has an absolute cursor `cur k` (set to `P` by `send`);
`next k` returns `src (cur k)` and advances only `cur k`; `P` grows exactly when `cur k = P`.
`cursor s k = base s + frames_read[k]` with `base s = pos − backlog length` is the concrete cursor.

All statements are for an arbitrary frame type `α` and an arbitrary source `src : Nat → α`.
The only side condition is `next_key` not wrapping: fewer than 2^64 operations (bus.rs:143 uses
`wrapping_add`; after 2^64 `send`s a key could be re-issued while still live). -/
namespace Dasp.Bus

variable {α : Type}

/-- **Main refinement theorem** ("for any interleaving of attaching outputs, pulling from outputs and
    dropping outputs"). For every finite operation sequence from the freshly created bus, the model of
    the code and the cursor specification agree on whether the sequence is executable at all (what fails is
    an operation on an output that is not live, and `send`/`dropBus` once the handle is gone), on every
    returned value (keys, frames) and, after every operation, on the pull count `P` and every live output's
    cursor; and every intermediate state satisfies the backlog invariant `Inv` (whose content is spelled out
    by the theorems below). -/
theorem bus_refines_cursor_spec (src : Nat → α) (ops : List Op) (hlen : ops.length < usizeMod) :
    (run src (init : St α) ops).map (List.map fun r => (r.1, absOf r.2)) = Abs.run src Abs.init ops ∧
    ∀ tr, run src (init : St α) ops = some tr → ∀ r ∈ tr, Inv src r.2 :=
  run_refines src ops (init : St α) (inv_init src) fresh_init (by simpa [init] using hlen)

/-- The same from *every* state satisfying the invariant (not only the initial one): the invariant is
    inductive, so it holds after every finite history, and the refinement continues from there. -/
theorem bus_refines_cursor_spec_from (src : Nat → α) (s : St α) (hi : Inv src s) (hf : Fresh s)
    (ops : List Op) (hlen : s.nextKey + ops.length < usizeMod) :
    (run src s ops).map (List.map fun r => (r.1, absOf r.2)) = Abs.run src (absOf s) ops ∧
    ∀ tr, run src s ops = some tr → ∀ r ∈ tr, Inv src r.2 :=
  run_refines src ops s hi hf hlen

/-- **Sentence 1, trace form** ("each output observes exactly the contiguous run of source frames that
    begins with the first frame nobody had pulled when it was attached, in order, without loss or
    duplication"). Attach an output in ANY state satisfying the invariant (every reachable state does)
    and continue with ANY operation sequence `post` that the bus can execute: the frames this output's
    `next` calls return, in order, are exactly `src P, src (P+1), …, src (P+n−1)` where `P` is the number
    of frames pulled from the source at the moment of `send` and `n` the number of `next` calls on it in
    `post` (however they interleave with other outputs' operations, sends and drops). -/
theorem output_observes_contiguous_run (src : Nat → α) (s : St α) (hi : Inv src s) (hf : Fresh s)
    (post : List Op) (hn : s.nextKey + (post.length + 1) < usizeMod)
    (tr : List (Ret α × St α)) (h : run src s (.send :: post) = some tr) :
    ∃ s' tr', tr = (.key s.nextKey, s') :: tr' ∧
      received s.nextKey post tr' =
        (List.range' s.pos (post.count (.next s.nextKey))).map src := by
  -- the run starts with a `send`, so the handle is alive
  have hh : s.handle = true := by
    cases hb : s.handle with
    | true => rfl
    | false => simp [run, step, hb] at h
  have hst : step src s .send = some (.key s.nextKey, (send s).2) := by simp only [step, hh, if_true]; rfl
  simp only [run, hst] at h
  cases hr : run src (send s).2 post with
  | none => simp [hr] at h
  | some tr' =>
    simp only [hr, Option.some.injEq] at h
    subst h
    obtain ⟨hi', hf', hnk⟩ := (step_refines src s .send hi hf (by omega)).2 _ _ hst
    exact ⟨(send s).2, tr', rfl, received_run src _ hi' hf' post (by omega) tr' hr _ _
      ((cursor_send hi _).trans (if_pos rfl))⟩

/-- "begins with the first frame nobody had pulled when it was attached": `send` registers the new output
    with cursor `P` (= number of frames pulled so far), touches no other cursor, pulls nothing and leaves
    the backlog as it is. -/
theorem send_attaches_at_P (src : Nat → α) (s : St α) (hi : Inv src s) (hf : Fresh s) :
    (send s).1 = s.nextKey ∧ cursor (send s).2 s.nextKey = some s.pos ∧
    (∀ k', k' ≠ s.nextKey → cursor (send s).2 k' = cursor s k') ∧
    (send s).2.pos = s.pos ∧ (send s).2.buf = s.buf ∧ Inv src (send s).2 :=
  ⟨rfl, (cursor_send hi _).trans (if_pos rfl), fun k' h => (cursor_send hi k').trans (if_neg h), rfl, rfl,
    hi.send (absent_of_fresh hf)⟩

/-- "each output observes exactly the contiguous run … in order, without loss or duplication" and "the
    source is pulled exactly once per distinct frame": `next` on a live output with cursor `c` returns
    `src c`, advances that cursor to `c + 1` and no other, and pulls the source exactly when `c = P`
    (then `P` becomes `P + 1` and the frame pulled is `src P`, never an earlier index again);
    on all four code paths (backlog / pull × pop-front / keep) the invariant is re-established. -/
theorem next_returns_cursor_frame (src : Nat → α) (s : St α) (hi : Inv src s) (k c : Nat)
    (hc : cursor s k = some c) :
    ∃ s', nextFrame src s k = some (src c, s') ∧
      cursor s' k = some (c + 1) ∧ (∀ k', k' ≠ k → cursor s' k' = cursor s k') ∧
      c ≤ s.pos ∧ s'.pos = (if c = s.pos then s.pos + 1 else s.pos) ∧ Inv src s' := by
  obtain ⟨fr, hl, rfl⟩ := cursor_eq_some.mp hc
  obtain ⟨frame, s', e, rfl, h1, h2, h3, _, _, _, h6⟩ := nextFrame_spec src s k fr hi hl
  have hb := (cursor_bounds hi hc).2
  exact ⟨s', e, h1, h2, hb, by rw [h3]; split <;> omega, h6⟩

/-- dropping a live output removes its cursor only, pulls nothing, and re-establishes the invariant
    (in particular the backlog is trimmed to what the remaining outputs still need, see
    `backlog_is_exactly_what_the_slowest_needs`). -/
theorem drop_removes_only_its_cursor (src : Nat → α) (s : St α) (hi : Inv src s) (k c : Nat)
    (hc : cursor s k = some c) :
    ∃ s', dropOutput s k = some s' ∧ cursor s' k = none ∧
      (∀ k', k' ≠ k → cursor s' k' = cursor s k') ∧ s'.pos = s.pos ∧ Inv src s' := by
  obtain ⟨fr, hl, _⟩ := cursor_eq_some.mp hc
  obtain ⟨s', e, hcur, hpos, _, _, _, hinv⟩ := dropOutput_spec src s k fr hi hl
  exact ⟨s', e, (hcur k).trans (if_pos rfl), fun k' h => (hcur k').trans (if_neg h), hpos, hinv⟩

/-- Dropping the `Bus` HANDLE while outputs are alive (the handle has no `Drop` impl, the shared node lives
    on in the outputs' `Rc`s): no cursor, no pull count, no backlog frame changes and the invariant is kept;
    `nextFrame`, `pendingFrames` and `dropOutput` never read the flag, so every theorem of this file about them
    applies unchanged to outputs that outlive the handle (and `bus_refines_cursor_spec` covers `dropBus` at
    any point of a sequence: only `send` needs the handle). -/
theorem handle_drop_changes_nothing (src : Nat → α) (s : St α) (hi : Inv src s) :
    (∀ k, cursor (dropBus s) k = cursor s k) ∧ (dropBus s).pos = s.pos ∧ (dropBus s).buf = s.buf ∧
    (∀ k, pendingFrames (dropBus s) k = pendingFrames s k) ∧
    (∀ k, (nextFrame src (dropBus s) k).map (fun r => (r.1, r.2.pos, r.2.buf, r.2.reads)) =
          (nextFrame src s k).map (fun r => (r.1, r.2.pos, r.2.buf, r.2.reads))) ∧
    Inv src (dropBus s) := by
  refine ⟨fun _ => rfl, rfl, rfl, fun _ => rfl, ?_, hi.dropBus⟩
  intro k
  unfold nextFrame dropBus
  cases lookup k s.reads with
  | none => rfl
  | some fr => simp only; split <;> rfl

/-! ## What the invariant says (holds in every reachable state by the theorems above) -/

/-- "its pending count equals the number of frames already pulled from the source that it has not yet
    received": `pending_frames` of a live output with cursor `c` is `P − c` (and `c ≤ P`). -/
theorem pending_is_pulled_minus_received (src : Nat → α) (s : St α) (hi : Inv src s) (k c : Nat)
    (hc : cursor s k = some c) : pendingFrames s k = some (s.pos - c) ∧ c ≤ s.pos := by
  obtain ⟨fr, hl, rfl⟩ := cursor_eq_some.mp hc
  have h1 := hi.fr_le _ (lookup_mem hl); have h2 := hi.pre.pos_eq
  simp only [pendingFrames, hl, Option.map_some]
  exact ⟨by congr 1; omega, by omega⟩

/-- "the bus's internal backlog always holds exactly the pulled frames that the slowest live output has
    not yet received": the backlog is `src[base .. P)`, its length is `P − base`, and `base` is the
    minimum of the live cursors (a lower bound of all of them and attained by one) — or `P` when no
    output is live. -/
theorem backlog_is_exactly_what_the_slowest_needs (src : Nat → α) (s : St α) (hi : Inv src s) :
    s.buf = (List.range' (base s) (s.pos - base s)).map src ∧
    backlogLen s = s.pos - base s ∧ base s ≤ s.pos ∧
    (∀ k c, cursor s k = some c → base s ≤ c) ∧
    ((∃ k c, cursor s k = some c) → ∃ k, cursor s k = some (base s)) ∧
    ((∀ k, cursor s k = none) → base s = s.pos) := by
  have hl := hi.pre.pos_eq
  have e : s.pos - base s = s.buf.length := by omega
  refine ⟨by rw [e]; exact hi.buf_eq, by simp [backlogLen, e], by omega,
    fun k c h => (cursor_bounds hi h).1, ?_, ?_⟩
  · rintro ⟨k, c, h⟩
    rcases base_eq_pos_or_attained hi with hb | hk
    · have := cursor_bounds hi h
      exact ⟨k, by rw [h]; congr 1; omega⟩
    · exact hk
  · intro h
    rcases base_eq_pos_or_attained hi with hb | ⟨k, hk⟩
    · exact hb
    · rw [h k] at hk; cases hk

/-- "so it is empty whenever all live outputs have caught up or none remain" (the hypothesis is vacuous
    when no output is live). -/
theorem backlog_empty_when_all_caught_up (src : Nat → α) (s : St α) (hi : Inv src s)
    (h : ∀ k c, cursor s k = some c → c = s.pos) : s.buf = [] ∧ backlogLen s = 0 := by
  obtain ⟨_, hlen, _⟩ := backlog_is_exactly_what_the_slowest_needs src s hi
  have hb : base s = s.pos := (base_eq_pos_or_attained hi).elim id fun ⟨k, hk⟩ => h k _ hk
  have h0 : backlogLen s = 0 := by rw [hlen, hb]; exact Nat.sub_self _
  exact ⟨List.eq_nil_of_length_eq_zero h0, h0⟩

/-- EXTENSION beyond C13's literal statement (C05's exhaustion applied to bus outputs): in every state
    satisfying the invariant, `Output::is_exhausted` of a live output with cursor `c` is
    "`c = P` and the source reports exhaustion" — it depends on THIS output's position only, not on what
    other outputs still have pending. (`srcDone p` = the source's `is_exhausted()` after `p` pulls.) -/
theorem exhausted_iff_received_all_and_source_done (src : Nat → α) (srcDone : Nat → Bool) (s : St α)
    (hi : Inv src s) (k c : Nat) (hc : cursor s k = some c) :
    isExhausted srcDone s k = some (decide (c = s.pos) && srcDone s.pos) := by
  obtain ⟨hp, hle⟩ := pending_is_pulled_minus_received src s hi k c hc
  simp only [isExhausted, hp, Option.map]
  congr 1
  by_cases h : c = s.pos
  · subst h; simp
  · have : s.pos - c ≠ 0 := by omega
    simp [h, this]

/-- on an index below the backlog length — which is what the guard `frames_read < num_frames` (bus.rs:184)
    gives at the model's only backlog access — the totalised `getD` is the plain access: its default is unused -/
theorem backlog_access_in_range (s : St α) (fr : Nat) (d : α) (h : fr < s.buf.length) :
    s.buf.getD fr d = s.buf[fr] := by
  simp [List.getD, List.getElem?_eq_getElem h]

/-! ## Non-vacuity: the hypotheses hold on concrete, non-trivial states -/

/-- a run that reaches a state with live outputs at different cursors and a non-empty backlog -/
def exOps : List Op := [.send, .send, .next 0, .next 0, .next 0, .next 1, .send, .next 2]

/-- the run succeeds; final state: P = 4, backlog = src[1..4), cursors 0 ↦ 3, 1 ↦ 1, 2 ↦ 4 -/
example : (run (fun i => 100 + i) (init : St Nat) exOps).map (List.map fun r => (r.1, r.2.pos, r.2.buf)) =
    some [(.key 0, 0, []), (.key 1, 0, []), (.frame 100, 1, [100]), (.frame 101, 2, [100, 101]),
          (.frame 102, 3, [100, 101, 102]), (.frame 100, 3, [101, 102]), (.key 2, 3, [101, 102]),
          (.frame 103, 4, [101, 102, 103])] := by decide

def exState : St Nat := ⟨4, [101, 102, 103], [(0, 2), (1, 0), (2, 3)], 3, true⟩

example : Inv (fun i => 100 + i) exState :=
  ⟨by decide, by decide, by decide, by decide, Or.inr ⟨(1, 0), by decide, rfl⟩⟩
example : Fresh exState := by unfold Fresh exState; decide
example : cursor exState 0 = some 3 ∧ cursor exState 1 = some 1 ∧ cursor exState 2 = some 4 ∧
    cursor exState 7 = none ∧ base exState = 1 := by decide
-- next on the slowest output pops the front; on the fastest it pulls the source
example : (nextFrame (fun i => 100 + i) exState 1).map (fun r => (r.1, r.2.pos, r.2.buf)) = some (101, 4, [102, 103]) := by decide
example : (nextFrame (fun i => 100 + i) exState 2).map (fun r => (r.1, r.2.pos, r.2.buf)) = some (104, 5, [101, 102, 103, 104]) := by decide
-- dropping the slowest trims two frames at once; dropping everything empties the backlog
example : (dropOutput exState 1).map (fun s => (s.buf, s.reads)) = some ([103], [(0, 0), (2, 1)]) := by decide
example : (((dropOutput exState 1).bind (dropOutput · 0)).bind (dropOutput · 2)).map (·.buf) = some [] := by decide
-- the "caught up" hypothesis is satisfiable with live outputs: after send, send, next 0, next 1
example : (run (fun i => i) (init : St Nat) [.send, .send, .next 0, .next 1]).map
    (fun tr => tr.map fun r => (r.2.pos, r.2.buf, cursor r.2 0, cursor r.2 1)) =
    some [(0, [], some 0, none), (0, [], some 0, some 0), (1, [0], some 1, some 0), (1, [], some 1, some 1)] := by decide
-- `received`: in the example run output 0 got 100,101,102, output 1 got 100, output 2 (attached at P = 3) got 103
example : (run (fun i => 100 + i) (init : St Nat) exOps).map (fun tr => (received 0 exOps tr, received 1 exOps tr, received 2 exOps tr)) =
    some ([100, 101, 102], [100], [103]) := by decide
-- the Bus handle dropped with two live outputs: they keep their streams (output 1 still gets 100, 101)
example : (run (fun i => 100 + i) (init : St Nat) [.send, .send, .dropBus, .next 0, .next 0, .next 1, .next 1]).map
    (List.map fun r => (r.1, r.2.pos)) =
    some [(.key 0, 0), (.key 1, 0), (.unit, 0), (.frame 100, 1), (.frame 101, 2), (.frame 100, 2), (.frame 101, 2)] := by decide
-- … and `send` is what is no longer possible
example : run (fun i => i) (init : St Nat) [.send, .dropBus, .send] = none := by decide
-- finite source of 3 frames, output 1 lags: the leading output 0 is exhausted after 3 frames although 1 is not;
-- until_exhausted over output 1 then yields exactly the three frames
example : (runX (fun i => if i < 3 then 100 + i else 0) (fun p => decide (3 ≤ p)) 10 (init : St Nat)
      [.op .send, .op .send, .op (.next 0), .op (.next 0), .op (.next 0)]).map
      (fun tr => tr.getLast?.map fun r => (isExhausted (fun p => decide (3 ≤ p)) r.2 0, isExhausted (fun p => decide (3 ≤ p)) r.2 1)) =
    some (some (some true, some false)) := by decide
example : (untilExhausted (fun i => if i < 3 then 100 + i else 0) (fun p => decide (3 ≤ p)) 10
      (⟨3, [100, 101, 102], [(0, 3), (1, 0)], 2, true⟩ : St Nat) 1).map (·.1) = some [100, 101, 102] := by decide
-- an operation on an output that is not live fails
example : run (fun i => i) (init : St Nat) [.send, .drop 0, .next 0] = none := by decide

end Dasp.Bus
