import Dasp.Lemmas.Envelope
import Dasp.Lemmas.EnvRounding
import Dasp.Lemmas.RoundRel
import Mathlib.Analysis.Complex.Exponential
import Mathlib.Tactic.NormNum
/-!
# C19 — Rectifiers and envelope follower: |x| and one-pole smoothing without overshoot

Property text (properties.jsonl, C19): *For every frame format and every sample whose negated
amplitude is representable, full-wave rectification yields the absolute signed amplitude about
equilibrium, and positive / negative half-wave rectification yield the sample limited to the upper
/ lower side of equilibrium, per channel. For any input history and any attack and release times
>= 0, each envelope output equals the detected value plus gain x (previous envelope - detected
value), with gain exp(-1/frames) (0 for zero frames) chosen as attack when the detected value
exceeds the previous envelope and release otherwise; hence it always lies between the previous
envelope and the detected value, equals the detected value when the time is 0, and converges
monotonically for constant input. Changing attack or release mid-stream affects only subsequent
frames.*

`Dasp.Peak` / `Dasp.Envelope` (Model/Peak.lean, Model/Envelope.lean) transcribe `dasp_peak/src/lib.rs`
and `dasp_envelope/src/detect/mod.rs` once, generically over the arithmetic class `Dasp.Arith`;
`driver_c19` runs them at the machine's binary32 / binary64 (gains in binary32, `powf` = the same
libm) against the compiled crates on every run; the theorems are about the same definitions at an
arbitrary linearly ordered field `K` (exact arithmetic, `gain.to_sample()` the identity) and, for the
integer rectifiers, over `Int`.  `exp` enters only through its range (`calcGain_in_unit_interval`),
instantiated at `Real.exp` in `real_gain`.  "Between" is stated twice: in exact arithmetic
(`env_step_between`, the identity-rounding case of the other) and in ROUNDED arithmetic (section 2b: every operation followed by a monotone,
idempotent, zero-fixing rounding — proved of the soft-float's rounding for every format with `1 ≤ prec`): the float
envelope never passes the detected value and never passes `fl(d + fl(l − d))`, which is the previous
envelope up to the two roundings in it (`overshoot_bound`).  On the machine floats the same is
checked by the harness on every output (exactly for every gain < 1 − 2^−20, with a labelled
one-ulp tolerance above — the `e*` of the theorem).
-/

namespace Dasp.Props.C19
open Dasp Dasp.Exact Dasp.Peak Dasp.Envelope

variable {K : Type} [Field K] [LinearOrder K] [IsStrictOrderedRing K]

/-! ## 1. Rectifiers -/

/-- *"every sample whose negated amplitude is representable, full-wave rectification yields the
    absolute signed amplitude about equilibrium"*, integer formats (u8, i8, i16, u16 instances of
    `IFmt`; any width): with or without overflow checks, if the signed amplitude `s − EQUILIBRIUM`
    is not `MIN` of the signed format the result is `|s − EQUILIBRIUM|` (and no panic). -/
theorem full_wave_int (f : IFmt) (checked : Bool) (s : Int) (h : s - f.eq ≠ f.smin) :
    fullWaveI f checked s = some |s - f.eq| :=
  fullWave_abs f.toSigned _ s fun _ => if_neg h

/-- *"positive / negative half-wave rectification yield the sample limited to the upper / lower side
    of equilibrium"*, integer formats, compared in the native format (unsigned included) -/
theorem half_waves_int (f : IFmt) (s : Int) :
    positiveHalfWaveI f s = max s f.eq ∧ negativeHalfWaveI f s = min s f.eq :=
  ⟨positiveHalfWave_max f.eq s, negativeHalfWave_min f.eq s⟩

/-- float formats (every value has a negation): `|s|`, `max s 0`, `min s 0` -/
theorem rectifiers_float (s : K) :
    fullWaveF s = |s| ∧ positiveHalfWaveF s = max s 0 ∧ negativeHalfWaveF s = min s 0 :=
  ⟨congrArg (·.getD s) (fullWave_abs id _ s fun _ => rfl), positiveHalfWave_max 0 s, negativeHalfWave_min 0 s⟩

/-- *"per channel"*: the rectifiers are `frame.map(closure)`; channel `c` of the result is the
    closure applied to channel `c` of the frame -/
theorem rectifier_per_channel (frame : List K) (c : Nat) (h : c < frame.length) :
    (detectPeak fullWaveF () frame).2[c]? = some |frame[c]| ∧
    (detectPeak positiveHalfWaveF () frame).2[c]? = some (max frame[c] 0) ∧
    (detectPeak negativeHalfWaveF () frame).2[c]? = some (min frame[c] 0) := by
  simp only [detectPeak, List.getElem?_map, List.getElem?_eq_getElem h, Option.map_some, rectifiers_float, and_self]

/-! ## 2. One envelope step -/

/-- *"each envelope output equals the detected value plus gain x (previous envelope - detected
    value), with gain … chosen as attack when the detected value exceeds the previous envelope and
    release otherwise"* -/
theorem env_step_formula (attack release l d : K) :
    envSample id attack release l d = d + (if l < d then attack else release) * (l - d) := by
  rw [← Rounding.envR_id, Rounding.envR_eq]
  split <;> ring

/-- *"hence it always lies between the previous envelope and the detected value"* (gains in [0,1]) -/
theorem env_step_between (attack release l d : K) (ha : 0 ≤ attack ∧ attack ≤ 1) (hr : 0 ≤ release ∧ release ≤ 1) :
    min l d ≤ envSample id attack release l d ∧ envSample id attack release l d ≤ max l d := by
  -- the rounded statement (section 2b) at the identity rounding, where `e* = l`
  have h := Rounding.envR_between Rounding.rndMono_id attack release l d rfl ha hr
  rw [Rounding.envR_id, Rounding.eStar, show d + (l + -d) = l by ring] at h
  rcases le_total d l with hle | hle
  · rw [min_eq_right hle, max_eq_left hle]; exact h.1 hle
  · rw [min_eq_left hle, max_eq_right hle]; exact h.2 hle

/-- *"equals the detected value when the time is 0"*: `calc_gain(0) = 0`, and with gain 0 the output
    is the detected value -/
theorem env_step_zero_time (expO : K → K) (other l d : K) :
    calcGain expO (0 : K) = 0 ∧
    (l < d → envSample id (calcGain expO 0) other l d = d) ∧
    (¬ l < d → envSample id other (calcGain expO 0) l d = d) := by
  have h0 : calcGain expO (0 : K) = 0 := by rw [calcGain_eq, if_pos rfl]
  rw [h0]
  exact ⟨rfl, fun h => Rounding.envR_gain_zero (rnd := fun x => x) rfl (if_pos h),
    fun h => Rounding.envR_gain_zero (rnd := fun x => x) rfl (if_neg h)⟩

/-! ## 2b. The envelope step in rounded (floating-point) arithmetic -/

open Dasp.Envelope.Rounding Dasp.Rms.Rounding in
/-- *"hence it always lies between the previous envelope and the detected value"*, in floating
    point: for ANY rounding that is monotone, idempotent and fixes 0 (IEEE round-to-nearest-even is;
    `softfloat_env_rounding`), a representable detected value `d`, any previous envelope `l` and gains
    in `[0, 1]`, the computed envelope `fl(d + fl(fl(l − d)·g))` lies between `d` and
    `e* = fl(d + fl(l − d))` — it NEVER passes the detected value, and on the side of the previous
    envelope it is bounded by the float recomputation of `l` from `d` and the rounded difference -/
theorem env_step_between_rounded {rnd : K → K} (ok : RndMono rnd) (attack release l d : K) (hd : rnd d = d)
    (ha : 0 ≤ attack ∧ attack ≤ 1) (hr : 0 ≤ release ∧ release ≤ 1) :
    (d ≤ l → d ≤ envR rnd attack release l d ∧ envR rnd attack release l d ≤ eStar rnd l d) ∧
    (l ≤ d → eStar rnd l d ≤ envR rnd attack release l d ∧ envR rnd attack release l d ≤ d) :=
  envR_between ok attack release l d hd ha hr

open Dasp.Envelope.Rounding Dasp.Rms.Rounding in
/-- `e*` is the previous envelope up to the two roundings in it: with relative error `u` and absolute
    (underflow) error `η` per rounding, `|e* − l| ≤ (1+u)(u·|l − d| + η) + u·|l| + η` — about `3u` times the
    larger of `|l|`, `|d|` -/
theorem env_overshoot_bound {rnd : K → K} {u η : K} (ok : RndOK rnd u η) (l d : K) :
    |eStar rnd l d - l| ≤ (1 + u) * (u * |l - d| + η) + u * |l| + η :=
  overshoot_bound ok l d

open Dasp.Envelope.Rounding in
/-- *"equals the detected value when the time is 0"* — exactly, in floating point too: with gain 0
    the computed envelope is the (representable) detected value itself -/
theorem env_step_zero_time_rounded {rnd : K → K} (ok : RndMono rnd) (l d other : K) (hd : rnd d = d) :
    (l < d → envR rnd 0 other l d = d) ∧ (¬ l < d → envR rnd other 0 l d = d) :=
  ⟨fun h => (envR_gain_zero ok.zero (if_pos h)).trans hd, fun h => (envR_gain_zero ok.zero (if_neg h)).trans hd⟩

/-- the hypotheses are what IEEE rounding provides: the rounding of the executable soft-float is
    monotone, fixes 0 and is idempotent, for every format with at least one significand bit -/
theorem softfloat_env_rounding (F : Fmt2) (hp : 1 ≤ F.prec) : Dasp.Envelope.Rounding.RndMono (rs F) :=
  ⟨fun _ _ h => rs_mono F hp h, rs_zero F, rs_idem F hp⟩

/-- *"gain exp(-1/frames) (0 for zero frames)"* lies in `[0, 1)` for every time `≥ 0`, assuming of
    the exponential only `0 ≤ exp y < 1` for `y < 0` -/
theorem calcGain_in_unit_interval (expO : K → K) (h : ∀ y, y < 0 → 0 ≤ expO y ∧ expO y < 1) (frames : K)
    (hn : 0 ≤ frames) : 0 ≤ calcGain expO frames ∧ calcGain expO frames < 1 := by
  rw [calcGain_eq]
  rcases hn.eq_or_lt with rfl | hpos
  · rw [if_pos rfl]; exact ⟨le_rfl, zero_lt_one⟩
  · rw [if_neg hpos.ne']; exact h _ (div_neg_of_neg_of_pos (neg_lt_zero.mpr one_pos) hpos)

/-- with the real exponential: the gain is `exp(−1/frames)` for `frames > 0`, `0` for `0`, and the
    range assumption holds -/
theorem real_gain (frames : ℝ) :
    (0 < frames → calcGain Real.exp frames = Real.exp (-1 / frames)) ∧ calcGain Real.exp (0 : ℝ) = 0 ∧
    (∀ y : ℝ, y < 0 → 0 ≤ Real.exp y ∧ Real.exp y < 1) := by
  refine ⟨fun h => ?_, ?_, fun y hy => ⟨le_of_lt (Real.exp_pos y), Real.exp_lt_one_iff.mpr hy⟩⟩
  · rw [calcGain_eq, if_neg h.ne']
  · rw [calcGain_eq, if_pos rfl]

/-! ## 3. Constant input: geometric, monotone convergence -/

/-- once the distance to `d` is a non-negative multiple of an earlier distance, the step selects in effect the gain
    selected then: the same side of `d`, or exactly `d`, where the gain multiplies 0 -/
theorem sel_stable {a r c l l' d : K} (hc : 0 ≤ c) (h : l' - d = c * (l - d)) :
    (if l' < d then a else r) * (l' - d) = (if l < d then a else r) * (l' - d) := by
  rcases hc.eq_or_lt with rfl | hc
  · rw [h, zero_mul, mul_zero, mul_zero]
  · rw [if_congr (show l' < d ↔ l < d by
      rw [← not_le, ← sub_nonneg, h, mul_nonneg_iff_of_pos_left hc, sub_nonneg, not_le]) rfl rfl]

/-- *"converges monotonically for constant input"*: while the detected value stays `d`, after `k`
    frames `env_k − d = g^k · (env_0 − d)` with `g` the gain selected at the first frame (attack if
    `env_0 < d`, release otherwise) — the envelope never crosses `d`, so the selection never flips -/
theorem constant_input_geometric (attack release d l0 : K) (ha : 0 ≤ attack) (hr : 0 ≤ release) (k : Nat) :
    iter attack release d k l0 - d = (if l0 < d then attack else release) ^ k * (l0 - d) := by
  have hg : 0 ≤ (if l0 < d then attack else release) := by split <;> assumption
  induction k with
  | zero => rw [pow_zero, one_mul]; rfl
  | succ k ih =>
    rw [iter, env_step_formula, add_sub_cancel_left, sel_stable (pow_nonneg hg k) ih, ih]; ring

/-- one step, any input: the distance to the detected value is multiplied by the selected gain, so it never grows -/
theorem env_step_contracts (attack release l d : K) (ha : 0 ≤ attack ∧ attack ≤ 1) (hr : 0 ≤ release ∧ release ≤ 1) :
    |envSample id attack release l d - d| ≤ |l - d| := by
  have hg : 0 ≤ (if l < d then attack else release) ∧ (if l < d then attack else release) ≤ 1 := by
    split <;> assumption
  rw [env_step_formula, add_sub_cancel_left, abs_mul, abs_of_nonneg hg.1]
  exact mul_le_of_le_one_left (abs_nonneg _) hg.2

/-- `|env_k − d| = g^k · |env_0 − d|`, and the distance never grows when the gains are ≤ 1 -/
theorem constant_input_monotone (attack release d l0 : K) (ha : 0 ≤ attack ∧ attack ≤ 1)
    (hr : 0 ≤ release ∧ release ≤ 1) (k : Nat) :
    |iter attack release d k l0 - d| = (if l0 < d then attack else release) ^ k * |l0 - d| ∧
    |iter attack release d (k + 1) l0 - d| ≤ |iter attack release d k l0 - d| := by
  have hg : 0 ≤ (if l0 < d then attack else release) := by split <;> [exact ha.1; exact hr.1]
  exact ⟨by rw [constant_input_geometric attack release d l0 ha.1 hr.1 k, abs_mul, abs_of_nonneg (pow_nonneg hg k)],
    env_step_contracts attack release _ d ha hr⟩

/-! ## 4. The detector over frames, histories, mid-stream changes -/

variable {δ φ : Type}

/-- `Detector::next` on frames, whatever the detector (`Peak` with any rectifier, `Rms`): per channel
    the formula above, from the previous output frame; the new state is the output frame; the gains
    are untouched -/
theorem detector_next (detect : δ → φ → δ × List K) (D : Detector K K δ) (f : φ) :
    (D.next id detect f).2 =
      List.zipWith (fun l d => d + (if l < d then D.attackGain else D.releaseGain) * (l - d)) D.lastEnv (detect D.det f).2 ∧
    (D.next id detect f).1.lastEnv = (D.next id detect f).2 ∧
    (D.next id detect f).1.attackGain = D.attackGain ∧ (D.next id detect f).1.releaseGain = D.releaseGain := by
  simp only [Detector.next, and_self, and_true]
  congr 1
  funext l d
  exact env_step_formula _ _ l d

/-- *"Changing attack or release mid-stream affects only subsequent frames"* (any arithmetic, floats
    included), (a): the outputs of a history are the same whatever operations follow it — in
    particular a later `set_attack_frames` / `set_release_frames` -/
theorem later_changes_do_not_affect_earlier_outputs {γ α : Type} [Arith γ] [Arith α] (expO : γ → γ) (ofGain : γ → α)
    (detect : δ → φ → δ × List α) (D : Detector γ α δ) (before after : List (Op γ φ)) :
    ((D.run expO ofGain detect (before ++ after)).2).take before.length = (D.run expO ofGain detect before).2 := by
  rw [Detector.run_append, List.take_left' (Detector.run_length expO ofGain detect before D)]

/-- (b): the setters change nothing but their own gain: the envelope state is untouched -/
theorem setters_touch_only_their_gain {γ α : Type} [Arith γ] [Arith α] (expO : γ → γ) (D : Detector γ α δ) (x : γ) :
    (D.setAttack expO x).lastEnv = D.lastEnv ∧ (D.setAttack expO x).releaseGain = D.releaseGain ∧
    (D.setAttack expO x).attackGain = calcGain expO x ∧
    (D.setRelease expO x).lastEnv = D.lastEnv ∧ (D.setRelease expO x).attackGain = D.attackGain ∧
    (D.setRelease expO x).releaseGain = calcGain expO x := by
  simp [Detector.setAttack, Detector.setRelease]

/-- the RMS detector plugs `Rms::next` (C11) in as the detected value -/
theorem rms_detector_uses_rms_next (sqrt : K → K) (D : Detector K K (Rms.Rms K)) (f : List K) :
    (D.next id (detectRms sqrt) f).2 =
      List.zipWith (fun l d => d + (if l < d then D.attackGain else D.releaseGain) * (l - d)) D.lastEnv (D.det.next sqrt f).2 :=
  (detector_next (detectRms sqrt) D f).1

/-! ## Non-vacuity -/

/-- u8 sample 3 (amplitude −125): full wave 125; 0 (amplitude −128 = MIN of i8) is excluded by the hypothesis -/
example : fullWaveI .u8 true 3 = some 125 := by decide
example : (3 : Int) - IFmt.u8.eq ≠ IFmt.u8.smin := by decide
example : (0 : Int) - IFmt.u8.eq = IFmt.u8.smin := by decide
example : fullWaveI .u8 true 0 = none ∧ fullWaveI .u8 false 0 = some (-128) := by decide
example : positiveHalfWaveI .u8 100 = 128 ∧ negativeHalfWaveI .u8 100 = 100 ∧ positiveHalfWaveI .i16 (-5) = 0 := by decide

/-- attack 1/2, release 1/4, previous envelope 0, detected 1: rises half way (attack branch) -/
example : envSample id (1/2 : ℚ) (1/4) 0 1 = 1/2 := by
  rw [env_step_formula]; norm_num
/-- falling: previous 1, detected 0: release branch, 1/4 -/
example : envSample id (1/2 : ℚ) (1/4) 1 0 = 1/4 := by
  rw [env_step_formula]; norm_num
/-- constant input 1 from 0 with attack 1/2: after 3 frames 7/8 -/
example : iter (1/2 : ℚ) (1/4) 1 3 0 = 7/8 := by
  have := constant_input_geometric (1/2 : ℚ) (1/4) 1 0 (by norm_num) (by norm_num) 3
  norm_num at this; linarith
/-- the gain hypotheses are satisfiable -/
example : (0 : ℚ) ≤ 1/2 ∧ (1/2 : ℚ) ≤ 1 := by norm_num

/-- the rounded-arithmetic theorem on binary32: previous envelope fl(1/3), detected value 0 (representable),
    release gain 1/4: the computed envelope lies in [0, e*] -/
example :
    0 ≤ Dasp.Envelope.Rounding.envR (rs f32) (1/2) (1/4) (rs f32 (1/3)) 0 ∧
    Dasp.Envelope.Rounding.envR (rs f32) (1/2) (1/4) (rs f32 (1/3)) 0
      ≤ Dasp.Envelope.Rounding.eStar (rs f32) (rs f32 (1/3)) 0 :=
  (env_step_between_rounded (softfloat_env_rounding f32 (by decide)) (1/2) (1/4) (rs f32 (1/3)) 0 (rs_zero f32)
    (by norm_num) (by norm_num)).1 (rs_nonneg f32 (by norm_num))

end Dasp.Props.C19
