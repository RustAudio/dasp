import Dasp.Gen.ConvTable
import Dasp.Lemmas.Rescale
/-!
# C01 — integer sample formats convert by exact power-of-two amplitude rescaling

Property text (properties.jsonl, C01): converting a sample between any two of the twelve
integer formats yields exactly the input's signed amplitude (value minus half-range for
unsigned formats) multiplied by 2^(target bits − source bits), rounded toward negative
infinity when narrowing.  Hence widening is lossless and undone by narrowing back,
equilibrium maps to equilibrium and each extreme to the matching extreme, order is
preserved, and every result is a valid in-range value of the target format.  Converting
through any intermediate format at least as wide as the narrower endpoint gives the same
result as converting directly.

`Dasp.Gen.table s d` is the body of `conv::<s>::to_<d>` as *regenerated from
/repo/dasp_sample/src/conv.rs on every run*; `specConv` is the specification above.
This file holds `conv` (the value the code computes, in which the theorems are stated), the property theorems and
their non-vacuity examples.
-/
namespace Dasp.Props.C01
open Dasp Dasp.Gen

/-- the code, as computed in a build without overflow checks -/
def conv (s d : Fmt) (v : Int) : Int := val v (table s d)

/-- **C01 main theorem.** For all 132 ordered pairs and every in-range value: no overflow
    panic in checked builds (`ok`), every unchecked 24/48-bit constructor receives an in-range
    value (`valid`), and the value is the specified rescaling. -/
theorem conv_spec (s d : Fmt) (hsd : s ≠ d) (v : Int) (hv : s.inRange v) :
    ok v (table s d) ∧ valid v (table s d) ∧ conv s d v = specConv s d v :=
  table_spec s d hsd v hv

/-! ### consequences: facts about the specification (`Lemmas/Rescale.lean`), transferred by `conv_spec` -/

theorem conv_eq (s d : Fmt) (hsd : s ≠ d) (v : Int) (hv : s.inRange v) : conv s d v = specConv s d v :=
  (conv_spec s d hsd v hv).2.2

/-- every result is a valid in-range value of the target format -/
theorem conv_inRange (s d : Fmt) (hsd : s ≠ d) (v : Int) (hv : s.inRange v) : d.inRange (conv s d v) := by
  rw [conv_eq s d hsd v hv]; exact specConv_inRange s d hv

/-- widening is lossless and undone by narrowing back -/
theorem conv_roundtrip (s d : Fmt) (hsd : s ≠ d) (h : s.bits ≤ d.bits) (v : Int) (hv : s.inRange v) :
    conv d s (conv s d v) = v := by
  rw [conv_eq d s (Ne.symm hsd) _ (conv_inRange s d hsd v hv), conv_eq s d hsd v hv]
  exact specConv_roundtrip h v

/-- equilibrium maps to equilibrium -/
theorem conv_equilibrium (s d : Fmt) (hsd : s ≠ d) : conv s d s.off = d.off := by
  rw [conv_eq s d hsd s.off s.off_inRange]; exact specConv_equilibrium s d

/-- the minimum maps to the minimum -/
theorem conv_min (s d : Fmt) (hsd : s ≠ d) : conv s d s.lo = d.lo := by
  rw [conv_eq s d hsd s.lo s.lo_inRange]; exact specConv_min s d

/-- the maximum maps to the maximum when narrowing, and to the largest value with zero
    low-order bits (`MAX_d − (2^(bd−bs) − 1)`) when widening — what "matching extreme" means
    for a shift -/
theorem conv_max (s d : Fmt) (hsd : s ≠ d) :
    conv s d s.hi = if d.bits ≤ s.bits then d.hi else d.hi - (2 ^ (d.bits - s.bits) - 1) := by
  rw [conv_eq s d hsd s.hi s.hi_inRange]; exact specConv_max s d

/-- order is preserved -/
theorem conv_mono (s d : Fmt) (hsd : s ≠ d) (a b : Int) (ha : s.inRange a) (hb : s.inRange b) (h : a ≤ b) :
    conv s d a ≤ conv s d b := by
  rw [conv_eq s d hsd a ha, conv_eq s d hsd b hb]; exact specConv_mono s d h

/-- widening is strictly monotone (lossless) -/
theorem spec_strictMono_of_widening (s d : Fmt) (hw : s.bits ≤ d.bits) (a b : Int) (h : a < b) :
    specConv s d a < specConv s d b :=
  specConv_strictMono hw h

/-- converting through any intermediate format at least as wide as the narrower endpoint
    gives the same result as converting directly -/
theorem conv_via (s m d : Fmt) (hsm : s ≠ m) (hmd : m ≠ d) (hsd : s ≠ d)
    (hm : min s.bits d.bits ≤ m.bits) (v : Int) (hv : s.inRange v) :
    conv m d (conv s m v) = conv s d v := by
  rw [conv_eq m d hmd _ (conv_inRange s m hsm v hv), conv_eq s m hsm v hv, conv_eq s d hsd v hv]
  exact specConv_via hm v

/-! ### non-vacuity: the hypotheses are met by non-trivial values, and the spec is the
    intended function on concrete points (these are tests of the *statement*) -/
example : Fmt.inRange .i16 (-12345) ∧ Fmt.i16 ≠ Fmt.u8 := by simp [Fmt.inRange]
example : specConv .i16 .u8 (-12345) = 79 := by decide
example : specConv .u8 .i16 79 = -12544 := by decide
example : specConv .i64 .u24 (-1) = 8388607 := by decide
example : conv .i16 .u8 (-12345) = 79 := by
  rw [conv_eq .i16 .u8 (by decide) (-12345) (by simp [Fmt.inRange])]; decide

end Dasp.Props.C01
