import Dasp.Lemmas.Graph
/-!
# C09 — graph processing runs exactly the upstream subgraph, once each, inputs first

Property text (properties.jsonl, C09): For any directed graph (cycles, self-loops and parallel edges
included; plain and stable graph types, the latter also after node removals) and any chosen output
node, one process call invokes every node that has a directed path to the output node, and the output
node itself, exactly once and invokes no other node; each invocation is given exactly one input per
incoming edge from a different node, each referring to that neighbour's current output buffers, and a
node's own buffers are never presented to it as an input.  Whenever the upstream subgraph is acyclic
every node is processed after all nodes that feed it, so the output buffers equal the functional
evaluation of the graph.  The source/sink enumeration helpers return exactly the existing nodes that
have no incoming / no outgoing edges.

Model (`Dasp/Model/Graph.lean`): a container is `PG = (bound, live, inc, outg)`; `inc n` is the list
`neighbors_directed(n, Incoming)` yields, in petgraph's order, one entry per parallel edge, self-loops
included (dumped by the harness for every case, never guessed).  `process` = reset of the visit maps,
`move_to`, petgraph's `DfsPostOrder` loop over the incoming lists, and per returned node the input
collection `inc n` minus `n` and the invocation.  `PG.WF` (neighbours are below the node bound) and
`Proc.Ok` (the processor's two visit maps have one length) are the only hypotheses besides "the output
node exists"; both hold for every petgraph container / every `Processor` (`Proc.empty` is `Ok`, and
`process_spec` shows `process` preserves it).
-/
namespace Dasp.Props.C09
open Dasp.Graph

/-- "the upstream subgraph is acyclic": no node that has a path to the output node lies on a cycle
    (`v → b ⇝ v`; a self-loop is a cycle) -/
def UpstreamAcyclic (g : PG) (root : Nat) : Prop :=
  ∀ v, PathTo g root v → ¬ ∃ b, v ∈ g.inc b ∧ PathTo g v b

theorem upstreamAcyclic_iff (g : PG) (root : Nat) : UpstreamAcyclic g root ↔ AcyclicFrom ⟨g.inc⟩ root := by
  constructor
  · intro h v hv hc
    obtain ⟨b, hb, hvb⟩ := (reachPlus_iff _ v v).mp hc
    exact h v ((pathTo_iff_reach g root v).mpr hv) ⟨b, hvb, (pathTo_iff_reach g v b).mpr hb⟩
  · rintro h v hv ⟨b, hvb, hb⟩
    exact h v ((pathTo_iff_reach g root v).mp hv) ((reachPlus_iff _ v v).mpr ⟨b, (pathTo_iff_reach g v b).mp hb, hvb⟩)

def invoked {β : Type} (r : Result β) : List Nat := r.log.map Prod.fst

theorem process_eq_some_iff {β : Type} {F : Nat → List β → β} {g : PG} {p : Proc} {buf : Nat → β} {root : Nat}
    {r : Result β} : process F g p buf root = some r ↔ (root < g.bound ∧ g.live root = true) ∧
      r = { proc := ⟨(run ⟨g.inc⟩ (resetMoveTo g p root)).stack, (run ⟨g.inc⟩ (resetMoveTo g p root)).disc,
                     (run ⟨g.inc⟩ (resetMoveTo g p root)).fin⟩
            log := (order g p root).map (fun n => (n, inputsOf g n))
            buf := (order g p root).foldl (invoke F g) buf } := by
  by_cases h : root < g.bound ∧ g.live root = true
  · simp [process, h, order, foldl_invokeM, eq_comm]
  · simp [process, h]

theorem invoked_eq_order {β : Type} {F : Nat → List β → β} {g : PG} {p : Proc} {buf : Nat → β} {root : Nat}
    {r : Result β} (h : process F g p buf root = some r) : invoked r = order g p root := by
  obtain ⟨_, rfl⟩ := process_eq_some_iff.mp h
  simp [invoked, Function.comp_def]

/-- **C09, coverage.** "one process call invokes every node that has a directed path to the output
    node, and the output node itself, exactly once and invokes no other node" — for every graph
    (cycles, self-loops, parallel edges, vacant slots), every existing output node, every processor state. -/
theorem process_spec {β : Type} (F : Nat → List β → β) (g : PG) (hwf : g.WF) (p : Proc) (hp : p.Ok)
    (buf : Nat → β) (root : Nat) (hr : root < g.bound) (hl : g.live root = true) :
    ∃ r, process F g p buf root = some r ∧
      (∀ n, n ∈ invoked r ↔ PathTo g root n) ∧ (invoked r).Nodup ∧ r.proc.Ok ∧
      invoked r = order g p root := by
  have h : process F g p buf root = some _ := process_eq_some_iff.mpr ⟨⟨hr, hl⟩, rfl⟩
  obtain ⟨hmem, hnd⟩ := order_spec g hwf p hp root hr
  rw [← invoked_eq_order h] at hmem hnd
  exact ⟨_, h, hmem, hnd, run_proc_ok g p hp root, invoked_eq_order h⟩

/-- **C09, inputs.** "each invocation is given exactly one input per incoming edge from a different
    node … and a node's own buffers are never presented to it as an input": the input list of an
    invocation of `n` is the incoming list of `n`, in petgraph's order, with the entries equal to `n`
    dropped — every other neighbour keeps its multiplicity (one input per parallel edge). -/
theorem process_inputs {β : Type} (F : Nat → List β → β) (g : PG) (p : Proc) (buf : Nat → β) (root : Nat)
    (r : Result β) (h : process F g p buf root = some r) :
    ∀ e ∈ r.log, e.2 = (g.inc e.1).filter (· != e.1) ∧ e.1 ∉ e.2 ∧ e.2.Sublist (g.inc e.1) ∧
      ∀ m, m ≠ e.1 → e.2.count m = (g.inc e.1).count m := by
  obtain ⟨_, rfl⟩ := process_eq_some_iff.mp h
  intro e he
  obtain ⟨n, _, rfl⟩ := List.mem_map.mp he
  exact ⟨rfl, inputsOf_not_self g n, inputsOf_sublist g n, fun m hm => inputsOf_count g n m hm⟩

/-- **C09, "each referring to that neighbour's current output buffers".** The buffers after the call
    are obtained by running the invocations in order, each node function applied to the buffers its
    inputs hold at that moment (`invoke`), every other node untouched. -/
theorem process_buffers {β : Type} (F : Nat → List β → β) (g : PG) (p : Proc) (buf : Nat → β) (root : Nat)
    (r : Result β) (h : process F g p buf root = some r) :
    r.buf = (invoked r).foldl (invoke F g) buf ∧ ∀ v, v ∉ invoked r → r.buf v = buf v := by
  rw [invoked_eq_order h]
  obtain ⟨_, rfl⟩ := process_eq_some_iff.mp h
  exact ⟨rfl, fun v hv => foldl_invoke_not_mem F g _ buf v hv⟩

/-- **C09, order.** "Whenever the upstream subgraph is acyclic every node is processed after all nodes
    that feed it": whatever precedes `v` in the invocation order contains every input of `v`
    (indeed every incoming neighbour). -/
theorem process_inputs_first {β : Type} (F : Nat → List β → β) (g : PG) (hwf : g.WF) (p : Proc) (hp : p.Ok)
    (buf : Nat → β) (root : Nat) (hac : UpstreamAcyclic g root)
    (r : Result β) (h : process F g p buf root = some r)
    (pre post : List Nat) (v : Nat) (hsplit : invoked r = pre ++ v :: post) :
    ∀ w ∈ g.inc v, w ∈ pre := by
  have hr := (process_eq_some_iff.mp h).1.1
  rw [invoked_eq_order h, order_eq_canonical g hwf p hp root hr] at hsplit
  exact run_neighbours_first ⟨g.inc⟩ g.bound root hr hwf ((upstreamAcyclic_iff g root).mp hac) hsplit

/-- **C09, functional evaluation.** "… so the output buffers equal the functional evaluation of the
    graph": for stateless node functions `F`, after the call every invoked node holds `F` of the final
    buffers of its inputs (in input order), and every other node's buffers are unchanged. -/
theorem process_functional {β : Type} (F : Nat → List β → β) (g : PG) (hwf : g.WF) (p : Proc) (hp : p.Ok)
    (buf : Nat → β) (root : Nat) (hac : UpstreamAcyclic g root)
    (r : Result β) (h : process F g p buf root = some r) :
    (∀ v, PathTo g root v → r.buf v = F v ((inputsOf g v).map r.buf)) ∧
    (∀ v, ¬ PathTo g root v → r.buf v = buf v) := by
  obtain ⟨hmem, hnd⟩ := order_spec g hwf p hp root (process_eq_some_iff.mp h).1.1
  rw [← invoked_eq_order h] at hmem hnd
  obtain ⟨hbuf, hrest⟩ := process_buffers F g p buf root r h
  constructor
  · intro v hv
    rw [hbuf]
    refine foldl_invoke_functional F g buf (invoked r) hnd (fun pre u post hsplit w hw => ?_) v ((hmem v).mpr hv)
    exact process_inputs_first F g hwf p hp buf root hac r h pre post u hsplit w (mem_inputsOf.mp hw).1
  · intro v hv
    exact hrest v (fun hin => hv ((hmem v).mp hin))

/-- **C09, repeated calls / processor reuse.** The visit maps are reset per call, so the invocation
    log and the resulting buffers do not depend on what the processor was used for before (any two
    processor states, e.g. fresh vs. left over from a differently shaped graph). -/
theorem process_independent_of_processor {β : Type} (F : Nat → List β → β) (g : PG) (hwf : g.WF)
    (p p' : Proc) (hp : p.Ok) (hp' : p'.Ok) (buf : Nat → β) (root : Nat)
    (r r' : Result β) (h : process F g p buf root = some r) (h' : process F g p' buf root = some r') :
    r.log = r'.log ∧ r.buf = r'.buf := by
  obtain ⟨⟨hr, _⟩, rfl⟩ := process_eq_some_iff.mp h
  obtain ⟨_, rfl⟩ := process_eq_some_iff.mp h'
  simp only [order_eq_canonical g hwf p hp root hr, order_eq_canonical g hwf p' hp' root hr, and_self]

/-- **C09, second call on the same processor.** For any graph the second call invokes the same nodes
    with the same inputs in the same order; when the upstream subgraph is acyclic it also leaves every
    buffer exactly as the first call did. -/
theorem process_twice {β : Type} (F : Nat → List β → β) (g : PG) (hwf : g.WF) (p : Proc) (hp : p.Ok)
    (buf : Nat → β) (root : Nat) (hr : root < g.bound) (hl : g.live root = true) :
    ∃ r r2, process F g p buf root = some r ∧ process F g r.proc r.buf root = some r2 ∧
      r2.log = r.log ∧ (UpstreamAcyclic g root → r2.buf = r.buf) := by
  obtain ⟨r, hr1, _, _, hok, _⟩ := process_spec F g hwf p hp buf root hr hl
  obtain ⟨r2, hr2, hmem2, _, _, _⟩ := process_spec F g hwf r.proc hok r.buf root hr hl
  refine ⟨r, r2, hr1, hr2, ?_, ?_⟩
  · rw [(process_eq_some_iff.mp hr2).2, order_eq_canonical g hwf _ hok root hr, (process_eq_some_iff.mp hr1).2,
      order_eq_canonical g hwf p hp root hr]
  · intro hac
    have hfun := (process_functional F g hwf p hp buf root hac r hr1).1
    rw [(process_buffers F g r.proc r.buf root r2 hr2).1]
    exact foldl_invoke_eq_self F g _ _ fun v hv => hfun v ((hmem2 v).mp hv)

/-- **C09, "repeated process calls on the same processor" after a call that unwound.**  If a user
    node panics during a call and the caller keeps the processor, the unwound call had invoked a
    prefix of the ordinary call's invocations (each with the ordinary inputs), and EVERY later call on
    that processor — any output node, any buffer contents — invokes exactly the nodes, with exactly the
    inputs, and leaves exactly the buffers that a call on a fresh processor would. -/
theorem process_after_unwound_call {β : Type} (F : Nat → List β → β) (g : PG) (hwf : g.WF) (p : Proc) (hp : p.Ok)
    (buf : Nat → β) (root k : Nat) (hr : root < g.bound) (hl : g.live root = true) :
    ∃ ra b r, processAbort F g p buf root k = some (ra, b) ∧ process F g p buf root = some r ∧
      ra.log <+: r.log ∧ (b = true → ra.log.getLast? = some (k, inputsOf g k)) ∧ (b = false → ra.log = r.log) ∧
      ∀ (buf' : Nat → β) (root' : Nat), root' < g.bound →
        ∀ r2 r2', process F g ra.proc buf' root' = some r2 → process F g Proc.empty buf' root' = some r2' →
          r2.log = r2'.log ∧ r2.buf = r2'.buf := by
  obtain ⟨r, hr1, _, _, hok, _⟩ := process_spec F g hwf p hp buf root hr hl
  obtain ⟨_, rfl⟩ := process_eq_some_iff.mp hr1
  -- whichever way the call ends, the processor it leaves is `Ok`, so later calls do not depend on it
  have later := fun buf' root' (_ : root' < g.bound) r2 r2' =>
    process_independent_of_processor F g hwf _ Proc.empty hok Proc.empty_ok buf' root' r2 r2'
  unfold processAbort
  simp only [hr, hl, decide_true, Bool.and_self, if_true]
  split
  · next hlt =>
    exact ⟨_, true, _, rfl, hr1, (takeWhile_ne_snoc_prefix hlt).map _, fun _ => by simp,
      fun h => Bool.noConfusion h, later⟩
  · exact ⟨_, false, _, rfl, hr1, List.prefix_refl _, fun h => Bool.noConfusion h, fun _ => rfl, later⟩

/-- documented panic: "**Panics** if there is no node for the given index" -/
theorem process_missing_node {β : Type} (F : Nat → List β → β) (g : PG) (p : Proc) (buf : Nat → β) (root : Nat)
    (h : ¬ (root < g.bound ∧ g.live root = true)) : process F g p buf root = none := by
  cases e : process F g p buf root with
  | none => rfl
  | some r => exact absurd (process_eq_some_iff.mp e).1 h

/-- **C09, sources.** "The source/sink enumeration helpers return exactly the existing nodes that have
    no incoming … edges" (each once). -/
theorem sources_spec (g : PG) :
    (∀ n, n ∈ sources g ↔ (n < g.bound ∧ g.live n = true) ∧ g.inc n = []) ∧ (sources g).Nodup := by
  constructor
  · intro n; simp [sources, List.mem_filter, mem_nodeIdentifiers]
  · exact List.Nodup.sublist List.filter_sublist (nodup_nodeIdentifiers g)

/-- **C09, sinks.** "… / no outgoing edges" (each once). -/
theorem sinks_spec (g : PG) :
    (∀ n, n ∈ sinks g ↔ (n < g.bound ∧ g.live n = true) ∧ g.outg n = []) ∧ (sinks g).Nodup := by
  constructor
  · intro n; simp [sinks, List.mem_filter, mem_nodeIdentifiers]
  · exact List.Nodup.sublist List.filter_sublist (nodup_nodeIdentifiers g)

/-- stable graph a→b→c after `remove_node(a)`: slot 0 vacant, node bound 3, node count 2 -/
def gVacant : PG :=
  { bound := 3, live := fun n => n == 1 || n == 2,
    inc := fun n => if n == 2 then [1] else [], outg := fun n => if n == 1 then [2] else [] }

/-- COUNTER-WITNESS for the code as it was BEFORE fix commit 7d0940f (index scan `0..node_count()`):
    on `gVacant` the old scan reports the vacant slot 0 as a source and as the only sink and misses
    the live sink 2, whereas the current enumeration is right. -/
theorem old_index_scan_wrong :
    sourcesOldIndexScan gVacant = [0, 1] ∧ gVacant.live 0 = false ∧
    sinksOldIndexScan gVacant = [0] ∧ 2 ∉ sinksOldIndexScan gVacant ∧
    sources gVacant = [1] ∧ sinks gVacant = [2] := by
  decide

/-! ### non-vacuity: every hypothesis instantiated on concrete graphs -/

/-- 5 nodes: 1→0, 2→0 twice (parallel), 1⇄3 (cycle), 2→2 (self-loop), 0→4 (4 is not upstream of 0) -/
def gEx : PG :=
  { bound := 5, live := fun _ => true,
    inc := fun n => [[1, 2, 2], [3], [2], [1], [0]].getD n [],
    outg := fun n => [[4], [0, 3], [0, 0, 2], [1], []].getD n [] }

theorem gEx_wf : gEx.WF := forall_edges_of_rows (by decide)

/-- the cyclic example satisfies the hypotheses of the coverage theorem; node 3 (on the cycle) and the
    self-looping node 2 are invoked, node 4 is not, and node 0 gets one input per parallel edge -/
example : ∃ r, process (fun _ (l : List Nat) => l.sum) gEx Proc.empty (fun _ => 1) 0 = some r ∧
    3 ∈ invoked r ∧ 2 ∈ invoked r ∧ 4 ∉ invoked r ∧ (invoked r).Nodup ∧ inputsOf gEx 0 = [1, 2, 2] ∧
    inputsOf gEx 2 = [] := by
  obtain ⟨r, h, hmem, hnd, _, _⟩ :=
    process_spec (fun _ (l : List Nat) => l.sum) gEx gEx_wf Proc.empty Proc.empty_ok (fun _ => 1) 0 (by decide) rfl
  refine ⟨r, h, ?_, ?_, ?_, hnd, by decide, by decide⟩
  · exact (hmem 3).mpr (.cons (b := 1) (by decide) (.cons (b := 0) (by decide) .refl))
  · exact (hmem 2).mpr (.cons (b := 0) (by decide) .refl)
  · intro h4
    -- 4 has no outgoing edge: it occurs in no incoming list
    rcases ((hmem 4).mp h4).eq_or_inc with e | ⟨b, hb⟩
    · cases e
    · exact forall_edges_of_rows (P := fun _ m => m ≠ 4) (by decide) b 4 hb rfl

/-- diamond with a shared sub-expression and a parallel edge; output node 1:
    4→2, 4→3, 2→1, 3→1 twice; 5→4; 1→0 (node 0 is downstream of the output node, not upstream) -/
def gDag : PG :=
  { bound := 6, live := fun _ => true,
    inc := fun n => [[1], [2, 3, 3], [4], [4], [5], []].getD n [],
    outg := fun n => [[], [0], [1], [1, 1], [2, 3], [4]].getD n [] }

theorem gDag_wf : gDag.WF := forall_edges_of_rows (by decide)

theorem upstreamAcyclic_of_inc_lt {g : PG} (hlt : ∀ n, ∀ m ∈ g.inc n, n < m) (root : Nat) : UpstreamAcyclic g root := by
  rintro v _ ⟨b, hvb, hb⟩
  exact Nat.lt_irrefl _ (Nat.lt_of_lt_of_le (hlt b v hvb) (hb.le hlt))

theorem gDag_acyclic : UpstreamAcyclic gDag 1 := upstreamAcyclic_of_inc_lt (forall_edges_of_rows (by decide)) 1

/-- the acyclic example satisfies the hypotheses of the order / functional-evaluation theorems: with
    `F = 1 + sum of inputs` the output node ends with 1 + 3 + 3 + 3 and node 0 keeps its old content -/
example : ∃ r, process (fun _ (l : List Nat) => 1 + l.sum) gDag Proc.empty (fun _ => 7) 1 = some r ∧
    r.buf 5 = 1 ∧ r.buf 4 = 2 ∧ r.buf 2 = 3 ∧ r.buf 3 = 3 ∧ r.buf 1 = 10 ∧ r.buf 0 = 7 := by
  obtain ⟨r, h, hmem, _, _, _⟩ :=
    process_spec (fun _ (l : List Nat) => 1 + l.sum) gDag gDag_wf Proc.empty Proc.empty_ok (fun _ => 7) 1 (by decide) rfl
  obtain ⟨hf, hn⟩ := process_functional (fun _ (l : List Nat) => 1 + l.sum) gDag gDag_wf Proc.empty Proc.empty_ok
    (fun _ => 7) 1 gDag_acyclic r h
  have p1 : PathTo gDag 1 1 := .refl
  have p2 : PathTo gDag 1 2 := .cons (b := 1) (by decide) p1
  have p3 : PathTo gDag 1 3 := .cons (b := 1) (by decide) p1
  have p4 : PathTo gDag 1 4 := .cons (b := 2) (by decide) p2
  have p5 : PathTo gDag 1 5 := .cons (b := 4) (by decide) p4
  have e5 : r.buf 5 = 1 := by rw [hf 5 p5]; rfl
  have e4 : r.buf 4 = 2 := by rw [hf 4 p4, show inputsOf gDag 4 = [5] from rfl]; simp [e5]
  have e2 : r.buf 2 = 3 := by rw [hf 2 p2, show inputsOf gDag 2 = [4] from rfl]; simp [e4]
  have e3 : r.buf 3 = 3 := by rw [hf 3 p3, show inputsOf gDag 3 = [4] from rfl]; simp [e4]
  have e1 : r.buf 1 = 10 := by rw [hf 1 p1, show inputsOf gDag 1 = [2, 3, 3] from rfl]; simp [e2, e3]
  refine ⟨r, h, e5, e4, e2, e3, e1, ?_⟩
  apply hn 0
  intro h0
  rcases h0.eq_or_inc with e | ⟨b, hb⟩
  · cases e
  · exact forall_edges_of_rows (P := fun _ m => m ≠ 0) (by decide) b 0 hb rfl

/-- the second-call theorem is applicable to the acyclic example -/
example : ∃ r r2, process (fun _ (l : List Nat) => 1 + l.sum) gDag Proc.empty (fun _ => 7) 1 = some r ∧
    process (fun _ (l : List Nat) => 1 + l.sum) gDag r.proc r.buf 1 = some r2 ∧ r2.log = r.log ∧ r2.buf = r.buf := by
  obtain ⟨r, r2, h1, h2, hl, hb⟩ := process_twice (fun _ (l : List Nat) => 1 + l.sum) gDag gDag_wf Proc.empty
    Proc.empty_ok (fun _ => 7) 1 (by decide) rfl
  exact ⟨r, r2, h1, h2, hl, hb gDag_acyclic⟩

/-- the unwound-call theorem is applicable to the acyclic example: node 3 fails while the output node 1
    is processed; whatever is processed afterwards on the same processor equals a fresh processor's run -/
example : ∃ ra b, processAbort (fun _ (l : List Nat) => 1 + l.sum) gDag Proc.empty (fun _ => 7) 1 3 = some (ra, b) ∧
    ∀ r2 r2', process (fun _ (l : List Nat) => 1 + l.sum) gDag ra.proc (fun _ => 9) 0 = some r2 →
      process (fun _ (l : List Nat) => 1 + l.sum) gDag Proc.empty (fun _ => 9) 0 = some r2' → r2.log = r2'.log ∧ r2.buf = r2'.buf := by
  obtain ⟨ra, b, _, h1, _, _, _, _, hlater⟩ := process_after_unwound_call (fun _ (l : List Nat) => 1 + l.sum) gDag gDag_wf
    Proc.empty Proc.empty_ok (fun _ => 7) 1 3 (by decide) rfl
  exact ⟨ra, b, h1, fun r2 r2' h2 h2' => hlater (fun _ => 9) 0 (by decide) r2 r2' h2 h2'⟩

end Dasp.Props.C09
