import Dasp.Lemmas.Sinc
import Dasp.Props.C08
/-! # C18 — Sinc interpolation is transparent on the sample grid, linear and finite

Property text (properties.jsonl, C18): "For any depth >= 1 with zero-initialised padding, resampling at
ratio exactly 1 reproduces the source delayed by exactly depth frames to within 1e-12 of the peak input
amplitude. At any fractional position the interpolated frame is a linear function of the buffered frames
(scaling and superposition of inputs carry over to outputs within rounding), is finite for finite input,
reproduces a constant input to within 1% once the buffer is primed for depth >= 4, and resetting returns
the interpolator to its initial silent state."

Model: `Dasp/Model/Sinc.lean` transcribes sinc/mod.rs (`new`, `depth`, `interpolate` with its
`usize`/`isize` index arithmetic, `next_source_frame`, `reset`) over an ideal `Fixed` ring pushed like
dasp_ring_buffer's and indexed by `(first + i) % len`, which equals the crate's `(first + i % len) % len`
(`Props/LinkSinc.lean`); it is executed by `driver_c18` at native `f64` (libm `sin`/`cos`)
against the real code, directly and inside the converter of C08. The theorems below are about the SAME
definitions at exact rational arithmetic `ratArith sn cs pi`, where `sn`, `cs` and `pi` are ARBITRARY —
index safety, linearity, reset hold for every kernel; the on-grid statements assume exactly the three
ideal-kernel facts `π ≠ 0`, `sin(π k) = 0` for integers `k ≥ 1`, `cos 0 = 1`.

What is proved vs. measured. Proved (exact arithmetic): index safety in every reachable state, linearity,
exact delay by `depth` at ratio 1 from zero padding, reset = initial silent state. MEASURED on every run
by the harness (tests, labelled so in props/C18.json): the f64 deviation at ratio 1 stays within
1e-12·peak for depths 1..64 (in f64 `sin(π k)` is ~1e-16·k, not 0), finiteness, constant reproduction
within 1 % for depth ≥ 4 once 2·depth equal frames are buffered, f64 superposition/scaling within rounding.
Integer sample formats are not modelled.

Recorded observation (not a C18 violation): `rightmost_tap_reads_oldest` — once primed, the last right tap
reads ring index `len`, which wraps to the OLDEST frame; its weight is 0 on the grid and small off it, and
linearity, finiteness and constant reproduction are unaffected. -/
namespace Dasp.Sinc
open Dasp.Conv

variable (sn cs : Rat → Rat) (pi : Rat)

local notation "AR" => ratArith sn cs pi

/-- **Index safety in every reachable state, priming included** ("the priming phase where fewer than depth
    frames are available (index arithmetic on unsigned values)"). Start from `Sinc::new(ring)` on any
    even-length ring whose `first` is inside it (the invariant `Fixed` maintains) and apply ANY sequence
    of `next_source_frame` / `interpolate` / `reset`. In the state reached:
    `len - depth` (usize) does not underflow; the `isize` sum cast with `as usize` is `≥ 0`;
    `max_depth = min(idx+1, depth) ≥ 1`; for every tap `n < max_depth` the usize subtraction `nl - n`
    does not underflow; every slice index the ring computes is `< len`. -/
theorem no_underflow_no_out_of_range {F : Type} (eq : List F) (ring : Ring F) (hf : ring.first < ring.len)
    (s0 : St F) (hnew : new ring = some s0) (ops : List (Op F)) :
    let s := ops.foldl (step eq) s0
    (depth s : Int) ≤ s.ring.len ∧
    (0 : Int) ≤ (depth s : Int) + ((s.idx : Int) + 1 - depth s) ∧
    maxDepthI s = min ((s.idx : Int) + 1) (depth s) ∧ 1 ≤ maxDepthI s ∧
    maxDepth s = min (s.idx + 1) (depth s) ∧
    (∀ n, n < maxDepth s → n ≤ s.idx) ∧
    (∀ i, (s.ring.first + i) % s.ring.len < s.ring.len) :=
  index_safe _ (inv_run eq ops s0 (inv_new ring s0 hnew hf))

/-- `Sinc::new` accepts exactly the rings of even length -/
theorem new_iff_even {F : Type} (ring : Ring F) : (new ring).isSome = true ↔ ring.len % 2 = 0 := by
  unfold new; split <;> simp [*]

/-- **Superposition** ("the interpolated frame is a linear function of the buffered frames (… superposition
    of inputs carr[ies] over to outputs …)"): for a fixed position `x`, read index and ring geometry and ANY
    kernel, if every buffered frame of `s12` is the channel-wise sum of the corresponding frames of `s1`
    and `s2`, then so is the interpolated frame. (`eq` = zeros, so `eq + eq = eq`.) -/
theorem superposition (eq : List Rat) (heq : List.zipWith (· + ·) eq eq = eq) (s1 s2 s12 : St Rat) (x : Rat)
    (hi1 : s12.idx = s1.idx) (hi2 : s12.idx = s2.idx) (hl1 : s12.ring.len = s1.ring.len)
    (hl2 : s12.ring.len = s2.ring.len)
    (hget : ∀ i, s12.ring.get eq i = List.zipWith (· + ·) (s1.ring.get eq i) (s2.ring.get eq i)) :
    interpolate AR eq s12 x = List.zipWith (· + ·) (interpolate AR eq s1 x) (interpolate AR eq s2 x) := by
  unfold interpolate
  rw [← maxDepth_congr hi1 hl1, ← maxDepth_congr hi2 hl2,
    ← List.foldl_hom₂ _ (List.zipWith (· + ·)) _ _ (tapStep AR eq s12 x), heq]
  intro v1 v2 n
  simp only [tapStep, accum_eq, hget, ← depth_congr hl1, ← depth_congr hl2, ← hi1, ← hi2, zipWith_accum_add]

/-- **Scaling** ("scaling … of inputs carr[ies] over to outputs"): scaling every buffered frame by `c`
    scales the interpolated frame by `c`, for any kernel and position. -/
theorem scaling (eq : List Rat) (c : Rat) (heq : eq.map (c * ·) = eq) (s sc : St Rat) (x : Rat)
    (hi : sc.idx = s.idx) (hl : sc.ring.len = s.ring.len)
    (hget : ∀ i, sc.ring.get eq i = (s.ring.get eq i).map (c * ·)) :
    interpolate AR eq sc x = (interpolate AR eq s x).map (c * ·) := by
  unfold interpolate
  rw [← maxDepth_congr hi hl, ← List.foldl_hom (List.map (c * ·)) (g₂ := tapStep AR eq sc x), heq]
  intro v n
  simp only [tapStep, accum_eq, hget, ← depth_congr hl, ← hi, zipWith_accum_smul]

/-- **On the grid** the kernel is the unit impulse: with `π ≠ 0`, `sin(π k) = 0` (k ≥ 1), `cos 0 = 1`, the
    weight of the left tap 0 at `x = 0` is 1 (the code's explicit `a == 0.0` branch supplies the `1` of
    `sin(0)/0`) and every other weight is 0, so `interpolate(0)` returns exactly the frame at the read
    index — in every reachable state with frames of one width. -/
theorem on_grid_is_read_frame (hpi : pi ≠ 0) (hsin : ∀ k : Nat, 1 ≤ k → sn (pi * (k : Rat)) = 0)
    (hcos : cs 0 = 1) (ch : Nat) (eq : List Rat) (s : St Rat) (hinv : Inv s) (hwf : WF ch eq s) :
    (kernel AR (depth s) 0 0 = 1 ∧ (∀ n, 1 ≤ n → kernel AR (depth s) 0 n = 0) ∧
      (∀ n, kernel AR (depth s) (1 - 0) n = 0)) ∧
    interpolate AR eq s 0 = s.ring.get eq s.idx := by
  have k0 : kernel AR (depth s) 0 0 = 1 := by simp [kernel, hcos]; norm_num
  have kl := fun n hn => kernel_grid sn cs pi hpi hsin (depth s) 0 n n hn (zero_add _)
  have kr := fun n => kernel_grid sn cs pi hpi hsin (depth s) (1 - 0) n (n + 1) n.succ_pos (by push_cast; ring)
  exact ⟨⟨k0, kl, kr⟩, interpolate_grid sn cs pi ch eq s hinv hwf k0 kl kr⟩

/-- **Exact delay of `depth` at ratio 1** ("For any depth >= 1 with zero-initialised padding, resampling at
    ratio exactly 1 reproduces the source delayed by exactly depth frames"). A `Converter` at ratio 1
    around `Sinc::new` of `2·d` equilibrium frames, `d ≥ 1`, any source of `ch`-channel frames: output `n`
    is the zero frame for `n < d` and source frame `n − d` afterwards (equilibrium past the end of the
    source), with exactly `n` source pulls — in exact arithmetic under the ideal-kernel facts. (The f64
    deviation from this, ≤ 1e-12·peak, is measured per run.) -/
theorem ratio_one_exact_delay (hpi : pi ≠ 0) (hsin : ∀ k : Nat, 1 ≤ k → sn (pi * (k : Rat)) = 0)
    (hcos : cs 0 = 1) (ch d : Nat) (hd : 1 ≤ d) (eq : List Rat) (heq : eq = List.replicate ch 0)
    (frames : List (List Rat)) (hfr : ∀ f ∈ frames, f.length = ch) (ratio0 : Rat) (m n : Nat) (hn : n < m) :
    ∃ o, (run AR (sincInterp AR eq) eq (List.replicate m 1)
        ⟨⟨frames, 0⟩, ⟨⟨List.replicate (2 * d) eq, 0⟩, 0⟩, 0, ratio0⟩).1[n]? = some o ∧
      o.frame = (if n < d then eq else srcAt eq frames (n - d)) ∧ o.pulls = n := by
  obtain ⟨o, h1, h2, h3⟩ := ratio_one_position sn cs pi (sincInterp AR eq) eq frames 0
    (⟨⟨List.replicate (2 * d) eq, 0⟩, 0⟩ : St Rat) ratio0 m n hn
  have heql : eq.length = ch := by rw [heq, List.length_replicate]
  have hinv := inv_feed sn cs pi eq (pulled eq frames 0 n) _ (inv_replicate eq d hd)
  have hwf0 : WF ch eq ⟨⟨List.replicate (2 * d) eq, 0⟩, 0⟩ :=
    ⟨heq, fun f hf => (List.mem_replicate.mp hf).2 ▸ heql⟩
  have hwf := wf_feed sn cs pi ch eq _ (pulled_mem_length ch eq heql frames hfr 0 n) _ hwf0
  refine ⟨o, h1, ?_, h2.trans (Nat.zero_add n)⟩
  rw [h3]
  refine (on_grid_is_read_frame sn cs pi hpi hsin hcos ch eq _ hinv hwf).2.trans ?_
  rw [feed_read_replicate sn cs pi d hd, pulled_length]
  split
  · rfl
  · rw [pulled_getD eq frames 0 n _ (by omega), Nat.zero_add]

/-- **Reset** ("resetting returns the interpolator to its initial silent state"): from any reachable state
    `reset` yields exactly the state `Sinc::new` builds from a ring of `len` equilibrium frames
    (`idx = 0`, `first = 0`, every frame equilibrium), and that state is silent: it interpolates to the
    zero frame at every position, for any kernel. -/
theorem reset_is_initial_silent_state (ch : Nat) (eq : List Rat) (heq : eq = List.replicate ch 0) (s : St Rat)
    (h : Inv s) :
    reset eq s = ⟨⟨List.replicate s.ring.len eq, 0⟩, 0⟩ ∧
    new (⟨List.replicate s.ring.len eq, 0⟩ : Ring Rat) = some (reset eq s) ∧
    ∀ x, interpolate AR eq (reset eq s) x = eq := by
  have e : reset eq s = ⟨⟨List.replicate s.ring.len eq, 0⟩, 0⟩ := by
    unfold reset Ring.len
    rw [List.map_const', Nat.zero_mod]
  refine ⟨e, ?_, fun x => interpolate_silent sn cs pi ch eq heq _ (fun i => ?_) x⟩
  · rw [e]; exact if_pos ((congrArg (· % 2) List.length_replicate).trans h.even)
  · rw [e]; exact get_replicate eq _ _ i

/-- **Recorded observation** (DESIGN §7 C18; not a violation of C18): once primed (`idx = depth`) the
    rightmost tap `nr + (max_depth − 1)` has ring index `len` and wraps to index 0, the OLDEST frame. -/
theorem rightmost_tap_reads_oldest {F : Type} (eq : List F) (s : St F) (h : Inv s) (hp : s.idx = depth s) :
    s.idx + 1 + (maxDepth s - 1) = s.ring.len ∧
    s.ring.get eq (s.idx + 1 + (maxDepth s - 1)) = s.ring.get eq 0 := by
  have hlen : s.idx + 1 + (maxDepth s - 1) = s.ring.len := by
    rw [maxDepth_eq h, hp]; have := h.len_eq; have := h.len_pos; omega
  refine ⟨hlen, ?_⟩
  rw [hlen]; unfold Ring.get; simp

/-! ## Non-vacuity: the hypotheses instantiated on concrete, non-trivial states -/

/-- an "ideal" rational kernel oracle: `pi = 3`, `sn` vanishing at the non-zero multiples of 3, `cs 0 = 1` -/
def snI (a : Rat) : Rat := if a.den = 1 ∧ a.num % 3 = 0 then 0 else 1
def csI (a : Rat) : Rat := if a = 0 then 1 else 1 / 2

theorem snI_grid (k : Nat) (_ : 1 ≤ k) : snI ((3 : Rat) * (k : Rat)) = 0 := by
  have e : (3 : Rat) * (k : Rat) = ((3 * k : Nat) : Rat) := by push_cast; ring
  rw [e]
  unfold snI
  have h1 : (((3 * k : Nat) : Rat)).den = 1 := Rat.den_natCast _
  have h2 : (((3 * k : Nat) : Rat)).num = ((3 * k : Nat) : Int) := Rat.num_natCast _
  rw [h1, h2]
  simp

/-- depth 2, mono, source 5,6,7,8 at ratio 1 under the ideal oracle: output 3 is source frame 1 -/
example : ∃ o, (run (ratArith snI csI 3) (sincInterp (ratArith snI csI 3) [0]) [0] (List.replicate 6 1)
      ⟨⟨[[5], [6], [7], [8]], 0⟩, ⟨⟨List.replicate (2 * 2) [0], 0⟩, 0⟩, 0, 1⟩).1[3]? = some o ∧
    o.frame = [6] ∧ o.pulls = 3 := by
  obtain ⟨o, h1, h2, h3⟩ := ratio_one_exact_delay snI csI 3 (by norm_num) snI_grid (by simp [csI]) 1 2 (by norm_num)
    [0] rfl [[5], [6], [7], [8]] (by intro f hf; simp at hf; rcases hf with h | h | h | h <;> rw [h] <;> rfl) 1 6 3
    (by norm_num)
  refine ⟨o, h1, ?_, h3⟩
  rw [h2]; simp [srcAt]

/-- a primed depth-2 state satisfies the invariant, so index safety applies: max_depth = 2 and both left
    taps `2 - 0`, `2 - 1` are non-negative -/
example : let s : St Rat := ⟨⟨[[1], [2], [3], [4]], 1⟩, 2⟩
    Inv s ∧ maxDepth s = 2 ∧ ∀ n, n < maxDepth s → n ≤ s.idx := by
  intro s
  have hinv : Inv s := ⟨by decide, by decide, by decide, by decide⟩
  obtain ⟨_, _, _, _, h5, h6, _⟩ := index_safe s hinv
  exact ⟨hinv, by rw [h5]; decide, h6⟩

/-- superposition on concrete rings: [1,2] + [10,20] = [11,22] buffered, arbitrary kernel (`id`, `id`, 3) -/
example (x : Rat) :
    interpolate (ratArith id id 3) [0] ⟨⟨[[11], [22]], 0⟩, 1⟩ x =
      List.zipWith (· + ·) (interpolate (ratArith id id 3) [0] ⟨⟨[[1], [2]], 0⟩, 1⟩ x)
        (interpolate (ratArith id id 3) [0] ⟨⟨[[10], [20]], 0⟩, 1⟩ x) := by
  refine superposition id id 3 [0] (by simp) ⟨⟨[[1], [2]], 0⟩, 1⟩ ⟨⟨[[10], [20]], 0⟩, 1⟩ ⟨⟨[[11], [22]], 0⟩, 1⟩ x
    rfl rfl rfl rfl ?_
  intro i
  have h : (0 + i) % 2 = 0 ∨ (0 + i) % 2 = 1 := by omega
  simp only [Ring.get, Ring.len, List.length_cons, List.length_nil]
  rcases h with h | h <;> rw [h] <;> norm_num

end Dasp.Sinc
