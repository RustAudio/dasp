import Dasp.Lemmas.Nodes
/-!
# Cross-layer link: the ring of the graph Delay node (C16) is the `Fixed` of C06

The Delay node (`Model/Nodes.lean`) carries its own `(first, data)` transcription of `Fixed::push`.
On every valid raw state it is the very same function as the `Fixed` transcription of `Model/Ring.lean`
(`Dasp.Nodes.push_eq_fixed`, restated here).  `Lemmas/Nodes.lean` lifts it to a block of pushes
(`pushAll_eq_fixed`), and the delay theorems of C16 come from C06's `Fixed.pushAll_spec` and
`Fixed.kth_push_returns` through it.  (`LinkFork`, `LinkRms`, `LinkSinc` do the same for C12/C14, C11/C19
and C18.)
-/
namespace Dasp.Props.LinkNodes
open Dasp.Ring

variable {α : Type} [Inhabited α]

/-- **C16 ↔ C06.** The Delay node's ring (`dasp_ring_buffer` 0.11.0 from the registry, same source
    text as the workspace crate at these lines) is the `Fixed` transcription: on a valid state its
    `push` succeeds and yields the same new state and the same returned element -/
theorem nodes_ring_is_fixed (r : Dasp.Nodes.Ring α) (x : α) (h : r.first < r.data.length) :
    let f : Fixed α := ⟨r.data, r.first⟩
    Dasp.Nodes.Ring.push r x = some (⟨(f.push x).1.first, (f.push x).1.data⟩, (f.push x).2) :=
  Dasp.Nodes.push_eq_fixed r x h

end Dasp.Props.LinkNodes
