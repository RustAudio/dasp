import Dasp.Lemmas.Slice
/-!
# C10 — sample<->frame slice views are lossless, in-place and total; slice ops are safe

Property text (properties.jsonl, C10): for every channel count N from 1 to 32 and every slice
length L, viewing interleaved samples as N-channel frames succeeds if and only if N divides L,
yields L/N frames whose channel c of frame i is sample i*N+c in the very same memory, and
viewing frames as samples is its exact inverse, for shared, mutable and boxed slices alike;
boxed conversions reuse the allocation and a failed boxed conversion releases it.  The in-place
slice operations (equilibrium, map, zip-map, write, add, add with per-channel gain) equal the
element-wise frame operation and refuse a length mismatch by panicking before modifying
anything.

The model (`Dasp/Model/Slice.lean`) is hand-written from `dasp_slice/src/frame/fixed_size_array.rs`
and `dasp_slice/src/lib.rs` and tied to the code by the correspondence streams `view`, `boxed`,
`ops` (N = 1..32, all six sample formats).  The shared and the mutable conversions are the same
arithmetic on (pointer, length), so one `toFrameSlice`/`toSampleSlice` covers both; `FView.set`
is the write through a mutable view.  Theorems are for every `n ≥ 1` (hence for 1..32).
-/
namespace Dasp.Props.C10
open Dasp.Slice

/-! ### "succeeds if and only if N divides L" -/

theorem toFrameSlice_eq (n : Nat) (s : SView) :
    toFrameSlice n s = if n ∣ s.len then some ⟨s.base, s.len / n, n⟩ else none := by
  unfold toFrameSlice; simp only [Nat.dvd_iff_mod_eq_zero]

theorem view_succeeds_iff (n : Nat) (s : SView) : (toFrameSlice n s).isSome ↔ n ∣ s.len := by
  rw [toFrameSlice_eq]; split <;> simp [*]

/-! ### "yields L/N frames … in the very same memory" (same data pointer: view identity) -/

theorem view_some (n : Nat) (s : SView) (hd : n ∣ s.len) :
    toFrameSlice n s = some ⟨s.base, s.len / n, n⟩ := by
  rw [toFrameSlice_eq, if_pos hd]

theorem view_none (n : Nat) (s : SView) (hd : ¬ n ∣ s.len) : toFrameSlice n s = none := by
  rw [toFrameSlice_eq, if_neg hd]

theorem view_shape (n : Nat) (s : SView) (f : FView) (h : toFrameSlice n s = some f) :
    f.frames = s.len / n ∧ f.base = s.base ∧ f.n = n ∧ n ∣ s.len := by
  rw [toFrameSlice_eq] at h
  split at h
  · cases h; exact ⟨rfl, rfl, rfl, ‹_›⟩
  · cases h

/-! ### "channel c of frame i is sample i*N+c" -/

theorem channel_formula {α} (mem : List α) (n : Nat) (s : SView) (f : FView) (h : toFrameSlice n s = some f)
    (i ch : Nat) (hi : i < f.frames) (hc : ch < n) :
    i * n + ch < s.len ∧ f.get mem i ch = s.get mem (i * n + ch) := by
  obtain ⟨hf, hb, hn, _⟩ := view_shape n s f h
  have hlt : i * n + ch < s.len := mul_add_lt_of_lt_div (hf ▸ hi) hc
  refine ⟨hlt, ?_⟩
  unfold FView.get SView.get
  rw [hn, hb, if_pos ⟨hi, hc⟩, if_pos hlt, Nat.add_assoc]

/-- conversely every sample of the slice is a channel of a frame of the view: nothing is lost -/
theorem sample_is_channel {α} (mem : List α) (n : Nat) (hn : 0 < n) (s : SView) (f : FView)
    (h : toFrameSlice n s = some f) (j : Nat) (hj : j < s.len) :
    j / n < f.frames ∧ j % n < n ∧ s.get mem j = f.get mem (j / n) (j % n) := by
  obtain ⟨hf, _, _, hd⟩ := view_shape n s f h
  have h1 : j / n < f.frames := by rw [hf]; exact Nat.div_lt_div_of_lt_of_dvd hd hj
  have h2 : j % n < n := Nat.mod_lt j hn
  refine ⟨h1, h2, ?_⟩
  rw [(channel_formula mem n s f h (j / n) (j % n) h1 h2).2, Nat.div_add_mod']

/-- a write through the mutable frame view lands at sample `i*N+c` of the very same memory … -/
theorem write_through {α} (mem : List α) (n : Nat) (s : SView) (f : FView) (h : toFrameSlice n s = some f)
    (i ch : Nat) (hi : i < f.frames) (hc : ch < n) (v : α) :
    f.set mem i ch v = mem.set (s.base + (i * n + ch)) v := by
  obtain ⟨_, hb, hn, _⟩ := view_shape n s f h
  unfold FView.set
  rw [hn, hb, if_pos ⟨hi, hc⟩, Nat.add_assoc]

/-- … so the sample slice reads the new value there and every other position is unchanged -/
theorem write_through_read {α} (mem : List α) (n : Nat) (s : SView) (f : FView) (h : toFrameSlice n s = some f)
    (i ch : Nat) (hi : i < f.frames) (hc : ch < n) (v : α) (hmem : s.base + s.len ≤ mem.length) :
    s.get (f.set mem i ch v) (i * n + ch) = some v ∧
    ∀ k, k ≠ s.base + (i * n + ch) → (f.set mem i ch v)[k]? = mem[k]? := by
  have hlt := (channel_formula mem n s f h i ch hi hc).1
  rw [write_through mem n s f h i ch hi hc v]
  constructor
  · unfold SView.get; rw [if_pos hlt]
    have : s.base + (i * n + ch) < mem.length := by omega
    simp [this]
  · intro k hk
    exact List.getElem?_set_ne (Ne.symm hk)

/-! ### "viewing frames as samples is its exact inverse" -/

theorem roundtrip_samples (n : Nat) (s : SView) (f : FView) (h : toFrameSlice n s = some f) :
    toSampleSlice f = s := by
  obtain ⟨hf, hb, hn, hd⟩ := view_shape n s f h
  unfold toSampleSlice
  rw [hf, hb, hn, Nat.div_mul_cancel hd]

theorem roundtrip_frames (f : FView) (hn : 0 < f.n) : toFrameSlice f.n (toSampleSlice f) = some f := by
  have hd : f.n ∣ (toSampleSlice f).len := ⟨f.frames, by unfold toSampleSlice; exact Nat.mul_comm _ _⟩
  rw [view_some _ _ hd]
  unfold toSampleSlice
  simp [Nat.mul_div_cancel _ hn]

/-- frames → samples always succeeds, has `F*N` samples, the same data pointer -/
theorem samples_of_frames (f : FView) : toSampleSlice f = ⟨f.base, f.frames * f.n⟩ := rfl

/-! ### boxed slices: "boxed conversions reuse the allocation and a failed boxed conversion releases it" -/

/-- success: same pointer and `L/N` frames as the borrowed view; the resulting box owns the
    *original* allocation; the set of live allocations is untouched (nothing freed) and no
    allocation id was handed out (no new allocation) -/
theorem boxed_success (n : Nat) (h : Heap) (b : SBox) (hd : n ∣ b.view.len) :
    fromBoxedSampleSlice n h b =
      (⟨h.live, b.id :: h.owned.erase b.id, h.next⟩, some ⟨b.id, ⟨b.view.base, b.view.len / n, n⟩⟩) := by
  have hm : b.view.len % n = 0 := Nat.mod_eq_zero_of_dvd hd
  have hv := view_some n ⟨b.view.base, b.view.len⟩ hd
  simp [fromBoxedSampleSlice, hm, hv, Heap.forget, Heap.fromRaw]

/-- … and the ownership relation is exactly what it was: nothing orphaned, nothing doubly owned -/
theorem boxed_success_ownership (n : Nat) (h : Heap) (b : SBox) (hd : n ∣ b.view.len) (hown : b.id ∈ h.owned) :
    (fromBoxedSampleSlice n h b).1.owned.Perm h.owned ∧
    (fromBoxedSampleSlice n h b).1.orphans = h.orphans := by
  rw [boxed_success n h b hd]
  have hp : (b.id :: h.owned.erase b.id).Perm h.owned := (List.perm_cons_erase hown).symm
  -- `orphans` filters the same live list by membership in `owned`, which a permutation keeps
  refine ⟨hp, List.filter_congr fun i _ => congrArg not (Bool.eq_iff_iff.mpr ?_)⟩
  simp only [List.contains_iff_mem]; exact hp.mem_iff

/-- failure: `None`, and the allocation is released — it is no longer live, no allocation id was
    handed out, and no orphan (live but un-owned allocation) is created -/
theorem boxed_failure (n : Nat) (h : Heap) (b : SBox) (hd : ¬ n ∣ b.view.len) :
    fromBoxedSampleSlice n h b = (h.drop b.id, none) ∧
    b.id ∉ (h.drop b.id).liveIds ∧ (h.drop b.id).next = h.next ∧
    (∀ i ∈ (h.drop b.id).orphans, i ∈ h.orphans) := by
  have hm : ¬ b.view.len % n = 0 := fun hz => hd (Nat.dvd_of_mod_eq_zero hz)
  refine ⟨by simp [fromBoxedSampleSlice, hm], fun hl => (Heap.mem_liveIds_drop.mp hl).2 rfl, rfl, fun i hi => ?_⟩
  -- `drop` erases `b.id` from `owned` too; that could orphan only `b.id`, which is no longer live
  obtain ⟨hl, ho⟩ := Heap.mem_orphans.mp hi
  obtain ⟨hl', hne⟩ := Heap.mem_liveIds_drop.mp hl
  exact Heap.mem_orphans.mpr ⟨hl', fun hc => ho ((List.mem_erase_of_ne hne).2 hc)⟩

/-- boxed frames → boxed samples: always succeeds, same pointer, `F*N` samples, same allocation,
    live set and id counter untouched -/
theorem boxed_to_samples (h : Heap) (b : FBox) :
    fromBoxedFrameSlice h b = (⟨h.live, b.id :: h.owned.erase b.id, h.next⟩, ⟨b.id, toSampleSlice b.view⟩) := rfl

/-- boxed round trip: samples → frames → samples gives back the same box (pointer, length, allocation) -/
theorem boxed_roundtrip (n : Nat) (h : Heap) (b : SBox) (hd : n ∣ b.view.len) :
    ∀ fb, (fromBoxedSampleSlice n h b).2 = some fb →
      (fromBoxedFrameSlice (fromBoxedSampleSlice n h b).1 fb).2 = ⟨b.id, b.view⟩ := by
  intro fb hfb
  rw [boxed_success n h b hd] at hfb ⊢
  cases hfb
  simp only [fromBoxedFrameSlice, Nat.div_mul_cancel hd]

/-- HISTORICAL counter-witness (code before fix commit 335aea4, `fromBoxedSampleSliceOld`): the box
    was forgotten before the divisibility test, so a failed conversion of 3 samples to 2-channel
    frames left allocation 0 live with no owner (a leak of all its 12 bytes) -/
theorem old_failed_conversion_leaks :
    let h0 := (Heap.empty.alloc 12).1
    (fromBoxedSampleSliceOld 2 h0 ⟨0, ⟨0, 3⟩⟩).2.isNone = true ∧
    (fromBoxedSampleSliceOld 2 h0 ⟨0, ⟨0, 3⟩⟩).1.orphans = [0] ∧
    (fromBoxedSampleSliceOld 2 h0 ⟨0, ⟨0, 3⟩⟩).1.liveBytes = 12 ∧
    (fromBoxedSampleSlice 2 h0 ⟨0, ⟨0, 3⟩⟩).1.orphans = [] ∧
    (fromBoxedSampleSlice 2 h0 ⟨0, ⟨0, 3⟩⟩).1.liveBytes = 0 := by decide

/-! ### the in-place operations "equal the element-wise frame operation and refuse a length
    mismatch by panicking before modifying anything" -/

/-- `map_in_place` applies the function to every frame, in order, once -/
theorem map_elementwise {F} (a : List F) (m : F → F) :
    mapInPlace a m = a.map m ∧ (mapInPlace a m).length = a.length := ⟨rfl, by simp [mapInPlace]⟩

theorem equilibrium_elementwise {F} (a : List F) (eq : F) : equilibrium a eq = List.replicate a.length eq := by
  simp [equilibrium, mapInPlace, List.map_const']

/-- `zip_map_in_place`: on equal lengths the element-wise `zip_map` of the two slices (and the
    unchecked loop never indexes outside either slice: the result is not `ub`); on a length
    mismatch a panic with the destination exactly as it was -/
theorem zipMap_elementwise {FA FB} (a : List FA) (b : List FB) (f : FA → FB → FA) :
    zipMapInPlace a b f = if a.length = b.length then .ok (List.zipWith f a b) else .panic a := by
  unfold zipMapInPlace
  by_cases h : a.length = b.length
  · have := zipLoop_spec f a b [] [] h rfl
    simp only [List.nil_append, List.length_nil] at this
    have h2 : zipMapInPlaceUnchecked a b f = .ok (List.zipWith f a b) := by
      simp only [zipMapInPlaceUnchecked, this]
    simp [h, h2]
  · simp [h]

theorem write_elementwise {F} (a b : List F) :
    write a b = if a.length = b.length then .ok b else .panic a := by
  unfold write; rw [zipMap_elementwise]
  by_cases h : a.length = b.length
  · simp [h, zipWith_snd a b h]
  · simp [h]

theorem add_elementwise {FA FB} (addAmp : FA → FB → FA) (a : List FA) (b : List FB) :
    addInPlace addAmp a b = if a.length = b.length then .ok (List.zipWith addAmp a b) else .panic a := by
  unfold addInPlace; exact zipMap_elementwise a b _

theorem addAmp_elementwise {FA FB A} (addAmp : FA → FB → FA) (mulAmp : FB → A → FB) (a : List FA) (b : List FB) (amp : A) :
    addInPlaceWithAmpPerChannel addAmp mulAmp a b amp =
      if a.length = b.length then .ok (List.zipWith (fun x y => addAmp x (mulAmp y amp)) a b) else .panic a := by
  unfold addInPlaceWithAmpPerChannel; exact zipMap_elementwise a b _

/-- why the assertion matters: the unchecked loop alone, with a shorter `b`, reads out of bounds -/
theorem unchecked_without_assert_is_ub :
    (match zipMapInPlaceUnchecked [1, 2] [10] (fun (x y : Nat) => x + y) with | .ub => true | _ => false) = true := by
  decide

/-! ### non-vacuity -/

example : toFrameSlice 3 ⟨5, 12⟩ = some ⟨5, 4, 3⟩ := by decide
example : toFrameSlice 3 ⟨5, 13⟩ = none := by decide
example : toFrameSlice 32 ⟨0, 0⟩ = some ⟨0, 0, 32⟩ := by decide
example : (⟨1, 2, 2⟩ : FView).get [9, 1, 2, 3, 4, 9] 1 0 = some 3 := by decide
example : (⟨1, 2, 2⟩ : FView).set [9, 1, 2, 3, 4, 9] 1 0 77 = [9, 1, 2, 77, 4, 9] := by decide
example : (3 : Nat) ∣ (⟨0, ⟨0, 6⟩⟩ : SBox).view.len ∧ (0 : Nat) ∈ (Heap.empty.alloc 24).1.owned := by decide
example : (fromBoxedSampleSlice 3 (Heap.empty.alloc 24).1 ⟨0, ⟨0, 6⟩⟩).1.orphans = [] := by decide
example : (match zipMapInPlace [1, 2, 3] [10, 20, 30] (fun (x y : Nat) => 3 * x + y) with
    | .ok r => r == [13, 26, 39] | _ => false) = true := by decide
example : (match zipMapInPlace [1, 2, 3] [10, 20] (fun (x y : Nat) => 3 * x + y) with
    | .panic r => r == [1, 2, 3] | _ => false) = true := by decide

end Dasp.Props.C10
