import Dasp.Lemmas.Osc
import Dasp.Lemmas.Simplex
import Dasp.Lemmas.OscFP
import Dasp.Lemmas.SimplexRounding
import Dasp.Lemmas.RoundRel
/-!
# C17 — oscillators and noise sources keep phase and amplitude in range at any rate

Property text (properties.jsonl, C17): *For any positive sample rate and any finite non-negative
frequency, constant or varying per frame, the phase starts at 0 and advances by frequency/rate
per frame wrapped into [0, 1), and sine, saw, square, noise and simplex-noise outputs always lie
within [-1, 1], with sine = sin(2*pi*phase), saw = 1 - 2*phase and square = +1 on the first
half-cycle and -1 on the second. Noise output is a pure function of the seed and the frame index
(clones and restarts reproduce it), and a variable-frequency oscillator consumes exactly one
frequency frame per output frame.*  Quantifier: every rate > 0, every finite non-negative
frequency sequence (including frequencies above the rate), every seed, arbitrarily long runs.

The model `Dasp.Osc` (`Model/Osc.lean`) transcribes `Phase`, `ConstHz`/`Hz`, `Sine`/`Saw`/`Square`,
`Noise`, `NoiseSimplex` of `dasp_signal/src/lib.rs` ONCE, over an arithmetic structure; all literal
data (hash primes, shift, mask, divisor, 256-entry PERM table, gradient masks, 0.395, 2^16) is
`Dasp.Gen.Osc`, regenerated from the source on every run.

* **Theorems below marked (exact)** are about the instance `ratArith sinO`: exact rational
  arithmetic, `x % w` = `x − w·trunc(x/w)`, `sin` an arbitrary function `sinO` about which only
  `|sinO x| ≤ 1` is assumed where needed.  They hold for runs of ANY length (induction over `run`).
* **Theorems marked (any arithmetic)** hold for every instance, in particular for `floatArith`, the
  native-f64 instance that the driver executes bit-for-bit against the compiled code: the integer
  noise hash, the seed schedule, the pull counts.
* **Theorems marked (f64)** (`fp_…`) are about the SAME model at its third instance `fpArith sinO`, the
  executable soft-float of `Machine/FP.lean` (one round-to-nearest-even per `+ * /`, exact `%`): they say what
  the f64 code computes *after rounding*.  That instance is also executed by the driver (stream `fp`) and
  agrees bit-for-bit with the compiled code.  Proved there: the f64 phase stays finite in [0,1) for runs of any
  length whenever every quotient hz/rate is finite (≤ 2^1023 − 2^52) and non-negative; f64 saw ∈ [−1,1]; f64 square
  = ±1.  NOT proved in f64 (measured on every run by the harness' native range oracles over 10^5–10^6-frame runs,
  labelled tests in props/C17.json): f64 sine ∈ [−1,1] (libm), f64 noise (exact by inspection: m < 2^31 and m/2^30 are dyadic — validated bit-for-bit).  The known finding
  `C17-step-overflow` (hz/rate = +inf ⇒ NaN) lies outside the exact model by construction (a
  rational quotient is always finite); it is re-confirmed on the real code by a probe on every run.
* **Rounded arithmetic** (`simplex_value_bound_rounded`, `softfloat_absrnd`): the float value of `simplex_noise_1d` is
  within `531·e` of the exact one for any rounding that moves values of magnitude ≤ 32 by at most `e` (error propagated
  through all 17 operations, `Lemmas/SimplexRounding.lean`), hence in [−1, 1]; binary64's rounding is proved to qualify.
  (The harness still checks every frame of its runs.)
-/
namespace Dasp.Props.C17
open Dasp Dasp.Osc Dasp.Gen

variable (sinO : Rat → Rat)

/-- (exact) *"the phase starts at 0"*: `signal::phase(step)` is `Phase { next: 0.0 }`, and the first
    frame yielded is that 0 -/
theorem phase_starts_at_zero (src : StepSrc Rat) :
    (phase (ratArith sinO) src).next = 0 ∧ (nextPhase (ratArith sinO) (phase (ratArith sinO) src)).1 = 0 :=
  ⟨phase_next sinO src, phase_next sinO src⟩

/-- (exact) *"advances by frequency/rate per frame wrapped into [0, 1)"*, one step: the oscillator yields the
    current phase and stores `frac (phase + step)` where `step` is what the step source hands out … -/
theorem phase_step (p : Phase Rat) (h0 : 0 ≤ p.next) (hs : SrcOK p.src) :
    (nextPhase (ratArith sinO) p).1 = p.next ∧
    (nextPhase (ratArith sinO) p).2.next = Int.fract (p.next + (p.src.step (ratArith sinO)).1) :=
  ⟨rfl, nextPhaseWrappedTo_one sinO h0 hs⟩

/-- … and that step is `hz / rate`: computed once for `ConstHz`, from ONE freshly pulled frame for `Hz` -/
theorem step_is_hz_over_rate (rate hz : Rat) (fs : List Rat) (n : Nat) :
    ((constHz (ratArith sinO) rate hz).step (ratArith sinO)).1 = hz / rate ∧
    ((StepSrc.hz rate (hz :: fs) n).step (ratArith sinO)) = (hz / rate, .hz rate fs (n + 1)) :=
  ⟨rfl, rfl⟩

/-- (exact) **phase invariant, runs of any length**: for rate > 0 and non-negative frequencies (`SrcOK`), every
    phase yielded by `n` calls of `Phase::next` lies in [0, 1), for every `n`. -/
theorem phase_in_unit_interval (src : StepSrc Rat) (hs : SrcOK src) (n : Nat) :
    ∀ ph ∈ (run (nextPhase (ratArith sinO)) n (phase (ratArith sinO) src)).1, 0 ≤ ph ∧ ph < 1 :=
  osc_frames sinO id Osc.phaseWrap (by decide) (fun _ h0 h1 => ⟨h0, h1.trans_eq Nat.cast_one⟩) hs n

/-- (exact) **closed form**: frame `k` of the phase signal is `frac (Σ_{i<k} step_i)` — `frac (k·hz/rate)` for a
    constant frequency, `frac (Σ_{i<k} hz_i / rate)` for a per-frame frequency. -/
theorem phase_closed_form (src : StepSrc Rat) (hs : SrcOK src) (n : Nat) :
    (run (nextPhase (ratArith sinO)) n (phase (ratArith sinO) src)).1 =
      (List.range n).map (fun k => Int.fract (stepSum src k)) :=
  run_oscStep_closed sinO id n hs

theorem stepSum_const (rate hz : Rat) (k : Nat) :
    stepSum (constHz (ratArith sinO) rate hz) k = k * (hz / rate) := rfl
theorem stepSum_var (rate : Rat) (fs : List Rat) (k : Nat) :
    stepSum (varHz rate fs) k = ((fs.take k).map (· / rate)).sum := rfl

/-- (exact) *"saw = 1 − 2·phase"* and it lies in (−1, 1] for a phase in [0, 1) -/
theorem saw_spec (ph : Rat) (h0 : 0 ≤ ph) (h1 : ph < 1) :
    sawWave (ratArith sinO) ph = 1 - 2 * ph ∧ -1 < sawWave (ratArith sinO) ph ∧ sawWave (ratArith sinO) ph ≤ 1 := by
  rw [sawWave_eq]; exact ⟨rfl, by linarith, by linarith⟩

/-- (exact) *"square = +1 on the first half-cycle and −1 on the second"* -/
theorem square_spec (ph : Rat) :
    (ph < 1 / 2 → squareWave (ratArith sinO) ph = 1) ∧ (1 / 2 ≤ ph → squareWave (ratArith sinO) ph = -1) := by
  rw [squareWave_eq]
  exact ⟨fun h => if_pos h, fun h => if_neg (not_lt.mpr h)⟩

/-- (exact, sine oracle) *"sine = sin(2·pi·phase)"* — with the f64 constant `PI * 2.0` — and within [−1, 1]
    **assuming** `|sinO| ≤ 1` (libm's `sin` is an opaque parameter of the model) -/
theorem sine_spec (hsin : ∀ x, |sinO x| ≤ 1) (ph : Rat) :
    sineWave (ratArith sinO) ph = sinO ((884279719003555 / 140737488355328 : Rat) * ph) ∧
    -1 ≤ sineWave (ratArith sinO) ph ∧ sineWave (ratArith sinO) ph ≤ 1 := by
  have := abs_le.mp (hsin ((884279719003555 / 140737488355328 : Rat) * ph))
  exact ⟨rfl, this.1, this.2⟩

/-- (exact) **every frame of a sine / saw / square run of any length** is the waveform of a phase in [0,1), hence
    within [−1, 1] (sine: under the oracle hypothesis), for every rate > 0 and non-negative frequency sequence. -/
theorem oscillators_in_range (hsin : ∀ x, |sinO x| ≤ 1) (src : StepSrc Rat) (hs : SrcOK src) (n : Nat) :
    (∀ y ∈ (run (sineNext (ratArith sinO)) n (phase (ratArith sinO) src)).1, -1 ≤ y ∧ y ≤ 1) ∧
    (∀ y ∈ (run (sawNext (ratArith sinO)) n (phase (ratArith sinO) src)).1, -1 < y ∧ y ≤ 1) ∧
    (∀ y ∈ (run (squareNext (ratArith sinO)) n (phase (ratArith sinO) src)).1, y = 1 ∨ y = -1) :=
  ⟨osc_frames sinO (sineWave (ratArith sinO)) Osc.phaseWrap (by decide) (fun q _ _ => (sine_spec sinO hsin q).2) hs n,
    osc_frames sinO (sawWave (ratArith sinO)) Osc.phaseWrap (by decide)
      (fun q h0 h1 => (saw_spec sinO q h0 (h1.trans_eq Nat.cast_one)).2) hs n,
    osc_frames sinO (squareWave (ratArith sinO)) Osc.phaseWrap (by decide)
      (fun q _ _ => (lt_or_ge q (1 / 2)).imp (square_spec sinO q).1 (square_spec sinO q).2) hs n⟩

/-- (exact) the waveform/phase relation along a whole run: frame `k` of sine / saw / square is the waveform of
    `frac (Σ_{i<k} step_i)` -/
theorem oscillators_closed_form (src : StepSrc Rat) (hs : SrcOK src) (n : Nat) :
    (run (sineNext (ratArith sinO)) n (phase (ratArith sinO) src)).1 =
      (List.range n).map (fun k => sinO ((884279719003555 / 140737488355328 : Rat) * Int.fract (stepSum src k))) ∧
    (run (sawNext (ratArith sinO)) n (phase (ratArith sinO) src)).1 =
      (List.range n).map (fun k => 1 - 2 * Int.fract (stepSum src k)) ∧
    (run (squareNext (ratArith sinO)) n (phase (ratArith sinO) src)).1 =
      (List.range n).map (fun k => if Int.fract (stepSum src k) < 1 / 2 then 1 else -1) :=
  ⟨run_oscStep_closed sinO (sineWave (ratArith sinO)) n hs,
    (run_oscStep_closed sinO (sawWave (ratArith sinO)) n hs).trans (by simp only [sawWave_eq]),
    (run_oscStep_closed sinO (squareWave (ratArith sinO)) n hs).trans (by simp only [squareWave_eq])⟩

/-- (any arithmetic — native f64 included) *"a variable-frequency oscillator consumes exactly one frequency frame
    per output frame"*: after `n` frames of phase / sine / saw / square / simplex noise driven by `rate.hz(signal)`,
    the frequency signal has been pulled exactly `n` times and exactly its first `n` frames are gone. -/
theorem one_frequency_frame_per_output {α : Type} (A : Arith α) (rate : α) (fs : List α) (n : Nat) :
    ∀ f ∈ [nextPhase A, sineNext A, sawNext A, squareNext A, simplexNext A],
      (run f n (phase A (varHz rate fs))).1.length = n ∧
      (run f n (phase A (varHz rate fs))).2.src.pulled = n ∧
      (run f n (phase A (varHz rate fs))).2.src.remaining = fs.drop n := by
  intro f hf
  have h1 : OneStep A f := by
    simp only [List.mem_cons, List.mem_nil_iff, or_false] at hf
    rcases hf with rfl | rfl | rfl | rfl | rfl <;> exact fun _ => rfl
  have h := run_src_hz A f h1 rate n (phase A (varHz rate fs)) fs 0 rfl
  exact ⟨run_length f n _, by rw [h]; exact Nat.zero_add n, by rw [h]; rfl⟩

/-- (any arithmetic) the integer hash is a 31-bit value: `… & 0x7fffffff` -/
theorem noise_hash_31_bits (seed : Nat) : noiseHash seed < 2 ^ 31 := Nat.lt_succ_of_le Nat.and_le_right

/-- (exact) noise output is `1 − m / 2^30` with `0 ≤ m < 2^31`, hence in (−1, 1], **for every seed** -/
theorem noise_in_range (seed : Nat) :
    noise1 (ratArith sinO) seed = 1 - (noiseHash seed : Rat) / 2 ^ 30 ∧
    -1 < noise1 (ratArith sinO) seed ∧ noise1 (ratArith sinO) seed ≤ 1 := by
  have e : noise1 (ratArith sinO) seed = 1 - (noiseHash seed : Rat) / 2 ^ 30 := by
    show ((1 : Nat) : Rat) - ((noiseHash seed : Nat) : Rat) / ((Osc.noiseDiv : Nat) : Rat) = _
    norm_num [Osc.noiseDiv]
  have h : ((noiseHash seed : Nat) : Rat) < 2 ^ 31 := by exact_mod_cast noise_hash_31_bits seed
  rw [e]
  exact ⟨rfl, by linarith, sub_le_self _ (div_nonneg (Nat.cast_nonneg _) (by positivity))⟩

/-- (any arithmetic — native f64 included) *"Noise output is a pure function of the seed and the frame index"*:
    frame `i` of `signal::noise(seed)` is `noise_1((seed + i) mod 2^64)` — the seed increment wraps, it never
    traps — for runs of any length, every u64 seed. -/
theorem noise_pure (A : Arith α) (seed n : Nat) :
    (run (noiseNext A) n (noise seed)).1 = (List.range n).map (fun i => noise1 A ((seed % M64 + i) % M64)) := by
  rw [run_eq_map]
  refine List.map_congr_left fun k _ => ?_
  show noise1 A (run (noiseNext A) k (noise seed)).2.seed = _
  rw [run_noise_state, Nat.mod_add_mod]; rfl

/-- (any arithmetic) *"(clones and restarts reproduce it)"*: the generator's whole state after `k` frames is the
    value `noise (seed + k)`, so a clone taken there — or a fresh `noise(seed + k)` — yields exactly the remaining
    frames, and a fresh `noise(seed)` yields the same sequence again (the model is a function of `seed` alone). -/
theorem noise_restart (A : Arith α) (seed k m : Nat) :
    (run (noiseNext A) k (noise seed)).2 = noise (seed + k) ∧
    (run (noiseNext A) (k + m) (noise seed)).1 =
      (run (noiseNext A) k (noise seed)).1 ++ (run (noiseNext A) m (noise (seed + k))).1 :=
  ⟨run_noise_state A k seed, by rw [run_add, run_noise_state]⟩

/-- (generated data) the PERM table read from the source has 256 entries, all bytes, and so is every hashed index
    `permHash i` -/
theorem perm_table_ok : Osc.perm.length = 256 ∧ (∀ v ∈ Osc.perm, v < 256) ∧ ∀ i, permHash i < 256 := by
  -- 256 rows are past the elaborator's recursion limit for `decide`; the kernel evaluates the same terms directly
  have hlt : ∀ v ∈ Osc.perm, v < 256 := by decide +kernel
  refine ⟨by decide +kernel, hlt, fun i => ?_⟩
  unfold permHash
  rw [List.getD_eq_getElem?_getD]
  cases h : Osc.perm[(i % 256).toNat]? with
  | none => exact Nat.zero_lt_succ _
  | some v => exact hlt v (List.mem_of_getElem? h)

/-- (exact) `|simplex_noise_1d(x)| ≤ 0.99984375 < 1` for every x in [0, 2^16) — via the polynomial bound
    `Dasp.Simplex.simplex_bound` (Lemmas/Simplex.lean), the model's corner polynomial and `|grad| ≤ 8`. -/
theorem simplex_value_bound (x : Rat) (h0 : 0 ≤ x) (h1 : x < 65536) :
    |simplexNoise1d (ratArith sinO) x| ≤ 99984375 / 100000000 ∧ (99984375 / 100000000 : Rat) < 1 :=
  ⟨by rw [simplexNoise1d_exact sinO h0 h1]
      exact Dasp.Simplex.simplex_bound _ _ _ (Int.fract_nonneg x) (Int.fract_lt_one x) (gradCoef_abs _) (gradCoef_abs _),
    by norm_num⟩

/-- (exact) **every frame of a simplex-noise run of any length** is strictly inside (−1, 1) (by `simplex_value_bound`:
    the phase handed to `simplex_noise_1d` is wrapped at 2^16), for every rate > 0 and non-negative frequencies.
    `…_partial`: exact arithmetic for whole runs; the f64 slack is the subject of `simplex_value_bound_rounded` below
    (per value, for every phase in [0, 2^16), which is where `fp_nextPhaseWrappedTo_inv` keeps the f64 phase). -/
theorem simplex_in_range_partial (src : StepSrc Rat) (hs : SrcOK src) (n : Nat) :
    ∀ y ∈ (run (simplexNext (ratArith sinO)) n (phase (ratArith sinO) src)).1, -1 < y ∧ y < 1 :=
  osc_frames sinO (simplexNoise1d (ratArith sinO)) Osc.simplexWrap (by decide)
    (fun q h0 h1 =>
      have hb := simplex_value_bound sinO q h0 (h1.trans_eq (by norm_num [Osc.simplexWrap]))
      abs_lt.mp (hb.1.trans_lt hb.2)) hs n

/-- (rounded arithmetic) **the float value of `simplex_noise_1d` lies in [−1, 1]**: in the arithmetic in which every
    `+ − ×` and the literal `0.395` are followed by one rounding that moves values of magnitude ≤ 32 by at most `e`
    (`AbsRnd`; small integers exact), the SAME `simplexNoise1d` differs from its exact value by at most `531·e`
    (`simplex_rounded_close`: the error is propagated through all 17 operations), hence stays within [−1, 1] as soon
    as `531·e ≤ 1.5625·10^−4` — for binary64, `e = 33·2^−53` (`softfloat_absrnd`) and `531·e < 2·10^−12` -/
theorem simplex_value_bound_rounded {rnd : Rat → Rat} {e : Rat} (ok : AbsRnd rnd e)
    (hint : ∀ n : Nat, n ≤ 8 → rnd (n : Rat) = (n : Rat)) (he : 531 * e ≤ 15625 / 100000000)
    (x : Rat) (h0 : 0 ≤ x) (h1 : x < 65536) :
    |simplexNoise1d (rndRatArith rnd sinO) x| ≤ 1 := by
  have := Approx.abs_le_of_close (simplex_value_bound sinO x h0 h1).1 (simplex_rounded_close sinO ok hint h0 h1)
  linarith

/-- the rounding of the executable binary64 soft-float satisfies the hypotheses of `simplex_value_bound_rounded`:
    one rounding moves a value of magnitude ≤ 32 by at most `33·2^−53`, and the integers 0..8 are exact -/
theorem softfloat_absrnd :
    AbsRnd (rs Dasp.f64) (33 * Dasp.pow2 (-53)) ∧ (∀ n : Nat, n ≤ 8 → rs Dasp.f64 (n : Rat) = (n : Rat)) ∧
    531 * (33 * Dasp.pow2 (-53)) ≤ (15625 / 100000000 : Rat) := by
  have hp53 : Dasp.pow2 (-53) = 1 / 9007199254740992 := by simp [Dasp.pow2]
  have hη : Dasp.pow2 (Dasp.f64.emin - 1) ≤ Dasp.pow2 (-53) := Dasp.pow2_mono (by decide)
  exact ⟨(Dasp.rs_rndOK Dasp.f64).absRnd (by norm_num [hp53]) (by norm_num [hp53])
      (by show Dasp.pow2 (-53) * 32 + _ ≤ _; linarith),
    fun n hn => Dasp.rs_nat Dasp.f64 (by decide) (by decide) (hn.trans (by decide)), by norm_num [hp53]⟩

/-! ### what the f64 code computes (soft-float instance, validated bit-for-bit by the `fp` stream) -/

section fp
variable (sinF : FP → FP)

/-- (f64) **float phase invariant, runs of any length**: if every quotient `hz / rate` the step source computes is a
    finite non-negative f64 (`FpSrcOK`: sign +, value ≤ 2^1023 − 2^52 — i.e. anything but the known finding
    `C17-step-overflow` and the very top binade), every phase the f64 code yields is finite and in [0, 1): the
    rounded sum `phase + step` cannot overflow and `% 1.0` is exact. -/
theorem fp_phase_in_unit_interval (src : StepSrc FP) (hs : FpSrcOK (fpArith sinF) src) (k : Nat) :
    ∀ y ∈ (run (nextPhase (fpArith sinF)) k (phase (fpArith sinF) src)).1,
      ∃ (n : Bool) (a : Rat), y = .fin n a ∧ 0 ≤ a ∧ a < 1 ∧ (a = 0 ∨ n = false) :=
  fp_osc_frames sinF Osc.phaseWrap (by decide) (by decide) id
    (fun _ a ⟨n, e, h0, hz⟩ h1 => ⟨n, a, e, h0, h1.trans_eq Nat.cast_one, hz⟩) hs k

/-- (f64) the wrap in isolation: `(phase + step) % w` is finite in [0, w), or NaN exactly when the rounded sum is +inf -/
theorem fp_wrap (a b : Rat) (ha : 0 ≤ a) (hb : 0 ≤ b) (w : Nat) (hw : 0 < w) (hw2 : w ≤ 2 ^ 52) :
    (∃ n q, (fpArith sinF).rem ((fpArith sinF).add (.fin false a) (.fin false b)) ((fpArith sinF).ofNat w) = .fin n q ∧
        0 ≤ q ∧ q < w) ∨
    ((fpArith sinF).add (.fin false a) (.fin false b) = .inf false ∧
      (fpArith sinF).rem ((fpArith sinF).add (.fin false a) (.fin false b)) ((fpArith sinF).ofNat w) = .nan) := by
  rcases fp_wrap_range sinF ⟨false, rfl, ha, Or.inr rfl⟩ ⟨false, rfl, hb, Or.inr rfl⟩ w hw hw2 with ⟨q, ⟨n, e, q0, _⟩, q1⟩ | h
  · exact Or.inl ⟨n, q, e, q0, q1⟩
  · exact Or.inr h

/-- (f64) **every frame of a float saw / square run of any length** is finite and within [−1, 1] (square: exactly ±1),
    under the same finiteness hypothesis on hz/rate.  (Rounding: `1 − 2·phase` is NOT always exact in f64 — e.g.
    phase = 2^-60 — but rounding is monotone and ±1 are representable.) -/
theorem fp_saw_square_in_range (src : StepSrc FP) (hs : FpSrcOK (fpArith sinF) src) (k : Nat) :
    (∀ y ∈ (run (sawNext (fpArith sinF)) k (phase (fpArith sinF) src)).1, ∃ m q, y = .fin m q ∧ 0 ≤ q ∧ q ≤ 1) ∧
    (∀ y ∈ (run (squareNext (fpArith sinF)) k (phase (fpArith sinF) src)).1, y = .fin false 1 ∨ y = .fin true 1) :=
  ⟨fp_osc_frames sinF Osc.phaseWrap (by decide) (by decide) (sawWave (fpArith sinF))
      (fun _ _ hx h1 => fp_saw_range sinF hx (h1.trans_eq Nat.cast_one)) hs k,
    fp_osc_frames sinF Osc.phaseWrap (by decide) (by decide) (squareWave (fpArith sinF))
      (fun _ _ _ _ => fp_square_values sinF _) hs k⟩

/-- non-vacuity (f64): a constant step of 1/4 (e.g. rate 4, hz 1: `div` is exact) satisfies the hypothesis -/
example : FpSrcOK (fpArith sinF) (.const (.fin false (1/4))) := by
  refine ⟨false, 1/4, rfl, by norm_num, Or.inr rfl, ?_⟩
  have h1 : pow2 1023 = 2 * pow2 1022 := by rw [show (1023 : Int) = 1022 + 1 from rfl, pow2_succ]
  have h2 : pow2 52 ≤ pow2 1022 := pow2_mono (by decide)
  have h3 : (1 : Rat) ≤ pow2 52 := by rw [← pow2_zero]; exact pow2_mono (by decide)
  linarith

end fp

/-! ### non-vacuity: the hypotheses are satisfiable on non-trivial states and the statements have content -/

/-- a constant 440 Hz at 44.1 kHz and a three-frame frequency list with a frequency above the rate are in domain -/
example : SrcOK (constHz (ratArith sinO) 44100 440) ∧ SrcOK (varHz 4 [1, 6, 0]) :=
  ⟨constHz_ok sinO (by norm_num) (by norm_num), varHz_ok (by norm_num) (by intro f hf; simp at hf; rcases hf with rfl | rfl | rfl <;> norm_num)⟩

/-- rate 4, hz 1 (the doc example): phases 0, 1/4, 1/2, 3/4, 0 — the wrap is exercised -/
example : (run (nextPhase (ratArith sinO)) 5 (phase (ratArith sinO) (constHz (ratArith sinO) 4 1))).1 = [0, 1/4, 1/2, 3/4, 0] := by
  rw [phase_closed_form sinO _ (constHz_ok sinO (by norm_num) (by norm_num))]
  simp only [stepSum_const, List.range, List.range.loop, List.map]
  norm_num

/-- saw and square take both signs / both values: saw(1/4) = 1/2, saw(3/4) = −1/2, square(1/4) = 1, square(1/2) = −1 -/
example : sawWave (ratArith sinO) (1/4) = 1/2 ∧ sawWave (ratArith sinO) (3/4) = -1/2 ∧
    squareWave (ratArith sinO) (1/4) = 1 ∧ squareWave (ratArith sinO) (1/2) = -1 := by
  refine ⟨by rw [sawWave_eq]; norm_num, by rw [sawWave_eq]; norm_num, ?_, ?_⟩
  · exact (square_spec sinO (1/4)).1 (by norm_num)
  · exact (square_spec sinO (1/2)).2 (by norm_num)

/-- the sine hypothesis is satisfiable by a function that is not identically zero (e.g. the constant 1, or any bounded oracle) -/
example : ∃ s : Rat → Rat, (∀ x, |s x| ≤ 1) ∧ s 1 ≠ 0 := ⟨fun _ => 1, fun _ => by norm_num, by norm_num⟩

/-- the noise hash is not constant and the seed wraps: hash(0) = 1376312589 & 0x7fffffff, and the frame after seed
    2^64 − 1 is the frame of seed 0 -/
example : noiseHash 0 = 1376312589 ∧ noiseHash 1 ≠ noiseHash 0 ∧
    (run (noiseNext (ratArith sinO)) 2 (noise (M64 - 1))).1 = [noise1 (ratArith sinO) (M64 - 1), noise1 (ratArith sinO) 0] := by
  refine ⟨by decide, by decide, ?_⟩
  rw [noise_pure]; rfl

/-- the simplex bound is attained: at x = 156.5 the two corner gradients are −8 and +8
    (PERM[156] = 223, PERM[157] = 183) and the value is exactly −0.99984375 -/
example : simplexNoise1d (ratArith sinO) (313/2) = -(99984375 / 100000000) := by
  have hf : ⌊(313/2 : Rat)⌋ = 156 := Int.floor_eq_iff.mpr ⟨by norm_num, by norm_num⟩
  have g0 : gradCoef (permHash 156) = -8 := by decide
  have g1 : gradCoef (permHash (156 + 1)) = 8 := by decide
  rw [simplexNoise1d_exact sinO (by norm_num) (by norm_num), Int.fract, hf, g0, g1]
  norm_num

end Dasp.Props.C17
