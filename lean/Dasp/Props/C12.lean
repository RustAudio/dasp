import Dasp.Lemmas.Fork
/-!
# C12 — Fork gives both branches the identical stream under every pull interleaving

Property text (properties.jsonl, C12): *For any order in which the two branches of a forked
signal are pulled, as long as neither branch gets ahead of the other by more than the ring
buffer's capacity, each branch observes exactly the source's frames in order with none
lost, duplicated or reordered, the source is pulled exactly once per distinct frame, and
each branch's pending count equals the number of frames it lags behind.  This holds for
by-reference and reference-counted branches, any capacity >= 1, and when the fork is
re-split after earlier use.*

Model: `Dasp/Model/Fork.lean` (transcription of dasp_signal/src/lib.rs:671-685, 1085-1232;
the ring buffer is the ideal capacity-bounded FIFO queue, cf. C06).  `f : Nat → α` is the
source stream (`Src.at`: the given frames, then equilibrium), `Cur = (a, b)` the number of
frames branch A / branch B has received, `Inv f cap s c` the invariant

* the source has been pulled exactly `max a b` times,
* the queue holds exactly `f (min a b) … f (max a b - 1)`, oldest first,
* the flag names the lagging branch whenever the cursors differ (queue empty when level).

`Admissible cap c ops`: after every entry of the schedule the lead is `≤ cap`.
Only property theorems and non-vacuity examples live in this file; `Cur`, `Inv`, `Admissible`, the
specification `specTrace` and the per-branch readings `logOf`, `pullsOf` of a trace are defined in
`Lemmas/Fork.lean`.
-/
namespace Dasp.Props.C12
open Dasp.Fork Dasp.SrcQueue

variable {α : Type}

/-- a freshly built fork (`signal.fork(ring_buffer)`, lib.rs:671-685) satisfies the invariant
    with both cursors at 0, for every capacity -/
theorem fresh_fork_inv (src : Src α) (cap : Nat) (h0 : src.pos = 0) :
    Inv src.at cap (init src cap) ⟨0, 0⟩ :=
  ⟨fun _ => rfl, rfl, by simp [init, h0], by simp [init], by simp⟩

/-- *"each branch observes exactly the source's frames in order"*, one step of branch A: from
    any state satisfying the invariant (i.e. left behind by any earlier admissible use), if A's
    lead stays within the capacity, `next` returns the frame at A's cursor, advances only A's
    cursor and re-establishes the invariant (incl. the hand-over when the queue was waiting
    for A and ran dry, capacity 1, lead = capacity exactly) -/
theorem nextA_spec (f : Nat → α) (cap : Nat) (s : St α) (a b : Nat)
    (hi : Inv f cap s ⟨a, b⟩) (hlead : a + 1 - b ≤ cap) :
    (nextA s).1 = f a ∧ Inv f cap (nextA s).2 ⟨a + 1, b⟩ :=
  next_me f cap s true a b hi hlead

/-- the mirror image for branch B -/
theorem nextB_spec (f : Nat → α) (cap : Nat) (s : St α) (a b : Nat)
    (hi : Inv f cap s ⟨a, b⟩) (hlead : b + 1 - a ≤ cap) :
    (nextB s).1 = f b ∧ Inv f cap (nextB s).2 ⟨a, b + 1⟩ := by
  have h := next_me f cap s false b a ((inv_iff_me false).1 hi) hlead
  exact ⟨h.1, (inv_iff_me (c := ⟨a, b + 1⟩) false).2 h.2⟩

/-- *"the source is pulled exactly once per distinct frame"*: in every invariant state the pull
    counter equals the number of distinct frames handed out so far, `max a b` -/
theorem pulls_eq_distinct (f : Nat → α) (cap : Nat) (s : St α) (c : Cur) (hi : Inv f cap s c) :
    s.src.pos = max c.a c.b := hi.pos_eq

/-- the queue is exactly the frames between the two cursors (none lost, none duplicated) -/
theorem queue_eq_between (f : Nat → α) (cap : Nat) (s : St α) (c : Cur) (hi : Inv f cap s c) :
    s.q = (List.range' (min c.a c.b) (max c.a c.b - min c.a c.b)).map f := hi.q_eq

/-- *"each branch's pending count equals the number of frames it lags behind"*
    (`pending_frames`, lib.rs:1203-1226: the queue length if the flag names this branch, else 0) -/
theorem pending_eq_lag (f : Nat → α) (cap : Nat) (s : St α) (c : Cur) (hi : Inv f cap s c) :
    pendingFrames s true = c.b - c.a ∧ pendingFrames s false = c.a - c.b :=
  ⟨pending_me f cap s true c.a c.b hi, pending_me f cap s false c.b c.a ((inv_iff_me false).1 hi)⟩

/-- **C12 main theorem** — *"for any order in which the two branches are pulled, as long as
    neither branch gets ahead of the other by more than the ring buffer's capacity"*: for every
    capacity, every finite schedule of A-pulls, B-pulls and re-splits (`by_ref` again /
    `by_rc`) that keeps the lead ≤ cap, started in any state satisfying the invariant (a fresh
    fork or whatever earlier admissible use left behind), everything observable — the frame
    returned by every `next`, `pending_frames` of both branches and the source's pull count
    after every step — is what the two-cursor specification says, and the invariant holds
    again at the end (so the statement composes over further use) -/
theorem schedule_refines_spec (f : Nat → α) (cap : Nat) (ops : List Op) (s : St α) (c : Cur)
    (hi : Inv f cap s c) (hadm : Admissible cap c ops) :
    trace s ops = specTrace f c ops ∧ Inv f cap (run s ops) (c.run ops) := by
  induction ops generalizing s c with
  | nil => exact ⟨rfl, hi⟩
  | cons o r ih =>
    obtain ⟨hl, hr⟩ := hadm
    obtain ⟨h1, h2⟩ := step_spec f cap s c o hi hl
    obtain ⟨h3, h4⟩ := ih (step s o).2 (c.step o) h2 hr
    refine ⟨?_, h4⟩
    show (step s o).1 :: trace (step s o).2 r = specObs f c o :: specTrace f (c.step o) r
    rw [h1, h3]

/-- the same from a freshly built fork -/
theorem fresh_fork_refines_spec (src : Src α) (cap : Nat) (h0 : src.pos = 0) (ops : List Op)
    (hadm : Admissible cap ⟨0, 0⟩ ops) :
    trace (init src cap) ops = specTrace src.at ⟨0, 0⟩ ops :=
  (schedule_refines_spec src.at cap ops _ _ (fresh_fork_inv src cap h0) hadm).1

/-- *"each branch observes exactly the source's frames in order with none lost, duplicated
    or reordered"*: the frames handed to branch `me` over the whole schedule are the
    consecutive source frames starting at its cursor, as many as it pulled -/
theorem branch_sees_source_in_order (f : Nat → α) (cap : Nat) (ops : List Op) (s : St α) (c : Cur)
    (hi : Inv f cap s c) (hadm : Admissible cap c ops) (me : Bool) :
    logOf me ops (trace s ops) = (List.range' (c.of me) (pullsOf me ops)).map f := by
  rw [(schedule_refines_spec f cap ops s c hi hadm).1]; exact logOf_spec f me ops c

/-- both branches see the identical stream: on a fresh fork, whichever branch has pulled
    fewer frames has seen a prefix of what the other has seen -/
theorem branches_identical (src : Src α) (cap : Nat) (h0 : src.pos = 0) (ops : List Op)
    (hadm : Admissible cap ⟨0, 0⟩ ops) :
    logOf true ops (trace (init src cap) ops) = (List.range (pullsOf true ops)).map src.at ∧
    logOf false ops (trace (init src cap) ops) = (List.range (pullsOf false ops)).map src.at := by
  have hA := branch_sees_source_in_order src.at cap ops _ _ (fresh_fork_inv src cap h0) hadm true
  have hB := branch_sees_source_in_order src.at cap ops _ _ (fresh_fork_inv src cap h0) hadm false
  simp only [Cur.of] at hA hB
  rw [hA, hB]; simp [List.range_eq_range']

/-- *"the source is pulled exactly once per distinct frame"* over a whole schedule: the pull
    count at the end is the larger of the two numbers of frames received -/
theorem schedule_pulls (f : Nat → α) (cap : Nat) (ops : List Op) (s : St α) (c : Cur)
    (hi : Inv f cap s c) (hadm : Admissible cap c ops) :
    (run s ops).src.pos = max (c.a + pullsOf true ops) (c.b + pullsOf false ops) := by
  have h := (schedule_refines_spec f cap ops s c hi hadm).2.pos_eq
  have hA := cur_run_of true ops c
  have hB := cur_run_of false ops c
  simp [Cur.of] at hA hB
  rw [h, hA, hB]

/-- *"by-reference and reference-counted branches … when the fork is re-split after earlier
    use"*: `by_ref` and `by_rc` only create handles to the shared state (lib.rs:1115-1141) -/
theorem resplit_is_identity (s : St α) : byRef s = s ∧ byRc s = s := ⟨rfl, rfl⟩

/-- dropping the handles and splitting again anywhere in a schedule changes neither the state
    reached nor anything the pulls observe -/
theorem resplit_transparent (ops : List Op) (s : St α) :
    run s ops = run s (ops.filter Op.isPull) ∧
    (trace s ops).filter (fun o => o.frame.isSome) = trace s (ops.filter Op.isPull) := by
  induction ops generalizing s with
  | nil => exact ⟨rfl, rfl⟩
  | cons o r ih =>
    have hrun : ∀ ops', run s (o :: ops') = run (step s o).2 ops' := fun _ => rfl
    cases ho : o.isPull with
    | false =>
      rw [List.filter_cons_of_neg (by simp [ho]), hrun, trace, step_of_not_pull ho,
        List.filter_cons_of_neg (by simp [look])]
      exact ih s
    | true =>
      obtain ⟨me, rfl⟩ := Op.eq_pull_of_isPull ho
      rw [List.filter_cons_of_pos ho, hrun, hrun, trace, trace,
        List.filter_cons_of_pos (by simp [step, look])]
      exact ⟨(ih _).1, congrArg _ (ih _).2⟩

/-- *"reference-counted branches"*, lifetime events: dropping one branch's handle does not
    touch the shared state (no `Drop` impl; `next` never looks at the reference count) -/
theorem drop_is_identity (s : St α) (me : Bool) : dropBranch s me = s := rfl

/-- after one branch is dropped (or simply never pulled again) the survivor still receives
    every source frame in order, none lost or duplicated: first the frames the other branch
    had queued for it, then fresh ones — from any invariant state, for any number of pulls,
    with no bound on how far it runs ahead of the branch that is gone (branch A) -/
theorem survivorA_sees_source (f : Nat → α) (cap : Nat) (s : St α) (c : Cur) (hi : Inv f cap s c) (n : Nat) :
    (solo s true n).1 = (List.range' c.a n).map f :=
  solo_of_invMe f cap true n s c.a c.b hi

/-- the same for branch B as the survivor -/
theorem survivorB_sees_source (f : Nat → α) (cap : Nat) (s : St α) (c : Cur) (hi : Inv f cap s c) (n : Nat) :
    (solo s false n).1 = (List.range' c.b n).map f :=
  solo_of_invMe f cap false n s c.b c.a ((inv_iff_me false).1 hi)

/-- *"any capacity >= 1"*: with one slot the two branches can still alternate forever, in
    either order, from any level position -/
theorem alternation_admissible (cap : Nat) (h : 1 ≤ cap) (n : Nat) (first : Bool) :
    Admissible cap ⟨n, n⟩ [.pull first, .pull (!first)] := by
  cases first <;> simp [Admissible, Cur.step, Cur.lead] <;> omega

/-! ### non-vacuity: every hypothesis instantiated on concrete, non-trivial runs -/

private def src5 : Src Int := { frames := [10, 20, 30, 40, 50], eq := 0, pos := 0 }
private def A : Op := .pull true
private def B : Op := .pull false
private def view (o : Obs Int) : Option Int × Nat × Nat × Nat := (o.frame, o.pendA, o.pendB, o.pulls)

/-- capacity 2: A runs ahead to lead = cap exactly, B drains the queue (hand-over), overtakes
    to lead = cap on the other side, re-split by reference and later by `Rc`, running past the
    end of the source into equilibrium; the schedule is admissible -/
example : Admissible 2 ⟨0, 0⟩ [A, A, B, B, B, B, .resplitRef, A, A, .resplitRc, A, B, B] := by
  simp [Admissible, Cur.step, Cur.lead, A, B]

example : (trace (init src5 2) [A, A, B, B, B, B, .resplitRef, A, A, .resplitRc, A, B, B]).map view =
    [(some 10, 0, 1, 1), (some 20, 0, 2, 2), (some 10, 0, 1, 2), (some 20, 0, 0, 2),
     (some 30, 1, 0, 3), (some 40, 2, 0, 4), (none, 2, 0, 4), (some 30, 1, 0, 4), (some 40, 0, 0, 4),
     (none, 0, 0, 4), (some 50, 0, 1, 5), (some 50, 0, 0, 5), (some 0, 1, 0, 6)] := by decide

/-- the invariant is satisfiable in a state where the branches are apart and B leads -/
example : Inv src5.at 2 (run (init src5 2) [A, A, B, B, B, B]) ⟨2, 4⟩ :=
  (schedule_refines_spec src5.at 2 [A, A, B, B, B, B] _ _ (fresh_fork_inv src5 2 rfl)
    (by simp [Admissible, Cur.step, Cur.lead, A, B])).2

/-- capacity 1 -/
example : (trace (init src5 1) [B, A, A, B, B, A]).map view =
    [(some 10, 1, 0, 1), (some 10, 0, 0, 1), (some 20, 0, 1, 2), (some 20, 0, 0, 2),
     (some 30, 1, 0, 3), (some 30, 0, 0, 3)] := by decide

/-- the side condition is needed (and the model keeps the code's behaviour outside it): with
    capacity 1, letting A lead by 2 overwrites frame 10 and B never sees it -/
example : (trace (init src5 1) [A, A, B]).map view =
    [(some 10, 0, 1, 1), (some 20, 0, 1, 2), (some 20, 0, 0, 2)] := by decide

/-- capacity 2, by `Rc`: A gets two ahead and is dropped; B, the survivor, first receives the
    two queued frames, then fresh ones, running arbitrarily far past the branch that is gone -/
example : (trace (init src5 2) [.resplitRc, A, A, .drop true, B, B, B, B, B, B]).map view =
    [(none, 0, 0, 0), (some 10, 0, 1, 1), (some 20, 0, 2, 2), (none, 0, 2, 2), (some 10, 0, 1, 2),
     (some 20, 0, 0, 2), (some 30, 1, 0, 3), (some 40, 2, 0, 4), (some 50, 2, 0, 5), (some 0, 2, 0, 6)] := by decide

example : (solo (run (init src5 2) [A, A]) false 6).1 = [10, 20, 30, 40, 50, 0] := by decide

example : ¬ Admissible 1 ⟨0, 0⟩ [A, A, B] := by simp [Admissible, Cur.step, Cur.lead, A]

end Dasp.Props.C12
