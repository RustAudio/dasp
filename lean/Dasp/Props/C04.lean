import Dasp.Lemmas.Signal
/-!
# C04 — Signal adaptors are pointwise, lock-step, one source frame per output frame

Property text (properties.jsonl, C04): for any source signals, the n-th frame yielded by map,
zip_map, add_amp, mul_amp, scale_amp, offset_amp, their per-channel variants, clip_amp and inspect
equals the corresponding frame operation applied to the n-th frame(s) of the source(s) (clip_amp
limits each channel's signed amplitude to [-t, t]), and delay(k) yields k equilibrium frames
followed by the source unchanged.  Every call to next pulls exactly one frame from each underlying
source (none while a delay is still emitting its leading silence), so borrowed signals resume
exactly where an adaptor left off.  Consequently any nesting of these adaptors equals the
composition of their pointwise functions.

`Dasp.Signal.next` is the hand transcription of the `Signal::next` implementations
(`Model/Signal.lean`, validated against the real code by the `adapt`/`exhaust` streams); `run o j`
is `j` successive calls.  The frame-level functions (`Ops`) and the user closures are arbitrary.
All theorems are for expressions of arbitrary depth (structural induction in `Lemmas/Signal.lean`, where
`St.den`, `St.pullsAfter`, `St.logsAfter`, `St.borrowsAfter` and `Sig.pullsAfter` are defined).
This file holds the property theorems, the predicate `NoDelay` that `pulls_lockstep` needs, and their
non-vacuity examples.
-/
namespace Dasp.Props.C04
open Dasp.Signal
variable {α : Type}

/-- **C04 main theorem** — "the n-th frame yielded … equals the corresponding frame operation
    applied to the n-th frame(s) of the source(s)": the first `j` calls of `next` on a freshly built
    expression of any shape return `den s 0, …, den s (j-1)`, where `den` is *defined* by the
    pointwise equations below (`den_map` … `den_delay_after`). -/
theorem outputs_pointwise (o : Ops α) (s : Sig α) (j : Nat) :
    (run o j s.init).1 = (List.range j).map (s.den o) := init_outputs o s j

/-- the same from any reachable (indeed any) run-time state, e.g. a tree that has already been
    running, or one whose sources are partly consumed -/
theorem outputs_pointwise_from (o : Ops α) (t : St α) (j : Nat) :
    (run o j t).1 = (List.range j).map (t.den o) := run_outputs o j t

theorem den_map (o : Ops α) (m : List α → List α) (s : Sig α) (n : Nat) :
    (Sig.map m s).den o n = m (s.den o n) := rfl
theorem den_zipMap (o : Ops α) (m : List α → List α → List α) (a b : Sig α) (n : Nat) :
    (Sig.zipMap m a b).den o n = m (a.den o n) (b.den o n) := rfl
theorem den_addAmp (o : Ops α) (a b : Sig α) (n : Nat) :
    (Sig.addAmp a b).den o n = o.addAmp (a.den o n) (b.den o n) := rfl
theorem den_mulAmp (o : Ops α) (a b : Sig α) (n : Nat) :
    (Sig.mulAmp a b).den o n = o.mulAmp (a.den o n) (b.den o n) := rfl
theorem den_scaleAmp (o : Ops α) (k : α) (s : Sig α) (n : Nat) :
    (Sig.scaleAmp k s).den o n = o.scaleAmp (s.den o n) k := rfl
theorem den_offsetAmp (o : Ops α) (k : α) (s : Sig α) (n : Nat) :
    (Sig.offsetAmp k s).den o n = o.offsetAmp (s.den o n) k := rfl
theorem den_scaleAmpPerChannel (o : Ops α) (fr : List α) (s : Sig α) (n : Nat) :
    (Sig.scaleAmpPerChannel fr s).den o n = o.mulAmp (s.den o n) fr := rfl
theorem den_offsetAmpPerChannel (o : Ops α) (fr : List α) (s : Sig α) (n : Nat) :
    (Sig.offsetAmpPerChannel fr s).den o n = o.addAmp (s.den o n) fr := rfl
theorem den_clipAmp (o : Ops α) (t : α) (s : Sig α) (n : Nat) :
    (Sig.clipAmp t s).den o n = (s.den o n).map (o.clipSample t) := rfl
theorem den_inspect (o : Ops α) (s : Sig α) (n : Nat) : (Sig.inspect s).den o n = s.den o n := rfl
theorem den_byRef (o : Ops α) (s : Sig α) (n : Nat) : (Sig.byRef s).den o n = s.den o n := rfl

/-- "delay(k) yields k equilibrium frames …" -/
theorem den_delay_silence (o : Ops α) (k : Nat) (s : Sig α) (n : Nat) (h : n < k) :
    (Sig.delay k s).den o n = o.eq := if_pos h
/-- "… followed by the source unchanged" -/
theorem den_delay_after (o : Ops α) (k : Nat) (s : Sig α) (n : Nat) :
    (Sig.delay k s).den o (k + n) = s.den o n :=
  (if_neg (Nat.not_lt.mpr (Nat.le_add_right k n))).trans (congrArg _ (Nat.add_sub_cancel_left ..))

/-- "clip_amp limits each channel's signed amplitude to [-t, t]" for the closure of
    `ClipAmp::next` on a signed integer format (`to_sample` is the identity there):
    `if s > t { t } else if s < -t { -t } else { s }`; amplitudes already inside are unchanged -/
theorem clipInt_range (t s : Int) (ht : 0 ≤ t) :
    -t ≤ clipInt t s ∧ clipInt t s ≤ t ∧ (-t ≤ s → s ≤ t → clipInt t s = s) := by
  unfold clipInt; split <;> (try split) <;> omega

/-- the inspect closure has been shown exactly the frames that were yielded, in order -/
theorem inspect_log (o : Ops α) (s : Sig α) (j : Nat) :
    (run o j (Sig.inspect s).init).2.logs.head? = some ((run o j (Sig.inspect s).init).1) := by
  rw [run_logs, outputs_pointwise]
  simp [Sig.init, St.logsAfter, Sig.den, init_den]

/-- general form: every inspect closure anywhere in a tree has seen exactly the frames its own
    source yielded (`St.logsAfter`: `j - k` of them under a `delay k`) -/
theorem inspect_logs_from (o : Ops α) (t : St α) (j : Nat) : (run o j t).2.logs = t.logsAfter o j :=
  run_logs o j t

/-- **one pull per output** — "every call to next pulls exactly one frame from each underlying
    source (none while a delay is still emitting its leading silence)": after `j` calls every own
    source of the expression has received exactly `Sig.pullsAfter s j` calls of `next`, which is
    `j` for every source, with `j` replaced by `j - k` (0 while `j ≤ k`) underneath each `delay k`
    (equations `pulls_fromIter` … `pulls_delay`). -/
theorem pulls_exact (o : Ops α) (s : Sig α) (j : Nat) :
    (run o j s.init).2.pulls = s.pullsAfter j := by
  rw [run_pulls, init_pullsAfter]

theorem pulls_exact_from (o : Ops α) (t : St α) (j : Nat) : (run o j t).2.pulls = t.pullsAfter j :=
  run_pulls o j t

theorem pulls_fromIter (fs : List (List α)) (j : Nat) : (Sig.fromIter fs).pullsAfter j = [j] := rfl
theorem pulls_fromSamples (n : Nat) (ss : List α) (j : Nat) : (Sig.fromSamples n ss).pullsAfter j = [j] := rfl
theorem pulls_gen (f : Nat → List α) (j : Nat) : (Sig.gen f).pullsAfter j = [j] := rfl
theorem pulls_equilibrium (j : Nat) : (Sig.equilibrium : Sig α).pullsAfter j = [j] := rfl
theorem pulls_map (m : List α → List α) (s : Sig α) (j : Nat) : (Sig.map m s).pullsAfter j = s.pullsAfter j := rfl
theorem pulls_zipMap (m : List α → List α → List α) (a b : Sig α) (j : Nat) :
    (Sig.zipMap m a b).pullsAfter j = a.pullsAfter j ++ b.pullsAfter j := rfl
/-- none while the delay is still silent: the source sees only the calls after the first `k` -/
theorem pulls_delay (k : Nat) (s : Sig α) (j : Nat) : (Sig.delay k s).pullsAfter j = s.pullsAfter (j - k) := rfl

/-- an expression without `delay` … -/
def NoDelay : Sig α → Prop
  | .delay _ _ => False
  | .map _ s | .scaleAmp _ s | .offsetAmp _ s | .scaleAmpPerChannel _ s | .offsetAmpPerChannel _ s
  | .clipAmp _ s | .inspect s | .byRef s => NoDelay s
  | .zipMap _ a b | .addAmp a b | .mulAmp a b => NoDelay a ∧ NoDelay b
  | _ => True

/-- … pulls *every* source exactly once per call: after `j` calls each counter reads `j` -/
theorem pulls_lockstep (o : Ops α) (s : Sig α) (h : NoDelay s) (j : Nat) :
    ∀ p ∈ (run o j s.init).2.pulls, p = j := by
  rw [pulls_exact]
  induction s with
  | delay k s ih => exact h.elim
  | zipMap _ a b iha ihb | addAmp a b iha ihb | mulAmp a b iha ihb =>
    intro p hp; rcases List.mem_append.mp hp with h' | h'
    · exact iha h.1 p h'
    · exact ihb h.2 p h'
  | fromIter | fromSamples | equilibrium | gen => exact fun p hp => List.mem_singleton.mp hp
  | byRef s ih => exact fun p hp => nomatch hp
  | map _ s ih | scaleAmp _ s ih | offsetAmp _ s ih | scaleAmpPerChannel _ s ih | offsetAmpPerChannel _ s ih
  | clipAmp _ s ih | inspect s ih => exact ih h

/-- **borrowed signals resume exactly where an adaptor left off** — whatever tree `t` of adaptors
    has been run for `j` calls, every signal it borrowed through `&mut` is handed back in exactly
    the state reached by calling `next` on it directly as many times as calls reached it
    (`St.borrowsAfter`: `j` times, `j - k` under a `delay k`). -/
theorem byRef_handback (o : Ops α) (t : St α) (j : Nat) : (run o j t).2.borrows = t.borrowsAfter o j :=
  run_borrows o j t

/-- instance: a stack of one-source adaptors over `&mut s`, run `j` times, leaves `s` exactly `j` steps advanced -/
theorem byRef_handback_stack (o : Ops α) (us : List (Un α)) (s : St α) (j : Nat) :
    (run o j (us.foldr St.un (.byRef s))).2.borrows = [(run o j s).2] := by
  rw [byRef_handback]
  induction us with
  | nil => rfl
  | cons u us ih => exact ih

/-- instance: `a.by_ref().zip_map(other, m)` (or add_amp / mul_amp) leaves `a` exactly `j` steps advanced -/
theorem byRef_handback_bin (o : Ops α) (b : Bin α) (s other : St α) (hother : other.borrows = []) (j : Nat) :
    (run o j (.bin b (.byRef s) other)).2.borrows = [(run o j s).2] := by
  rw [byRef_handback]
  exact congrArg _ (List.eq_nil_of_length_eq_zero ((borrowsAfter_length o other j).trans (congrArg _ hother)))

/-- under `delay k` the borrowed signal is untouched during the silence and then advances one step per call -/
theorem byRef_handback_delay (o : Ops α) (k : Nat) (s : St α) (j : Nat) :
    (run o j (.delay k (.byRef s))).2.borrows = [(run o (j - k) s).2] := by
  rw [byRef_handback]; rfl

/-- **nesting = composition** — "any nesting of these adaptors equals the composition of their
    pointwise functions": a stack of one-source adaptors yields, frame by frame, the composition of
    their frame functions applied to the source's frame … -/
theorem stack_composition (o : Ops α) (us : List (Un α)) (t : St α) (j : Nat) :
    (run o j (us.foldr St.un t)).1 =
      (List.range j).map fun n => us.foldr (fun u f => u.apply o f) (t.den o n) := by
  rw [run_outputs]; exact congrArg (List.map · _) (funext (stack_den o us t))

/-- … and two-source adaptors compose the same way (instance of `outputs_pointwise`): e.g.
    `a.map(f).add_amp(b.scale_amp(k)).clip_amp(t)` -/
theorem nesting_example (o : Ops α) (f : List α → List α) (k t : α) (a b : Sig α) (n : Nat) :
    (Sig.clipAmp t (Sig.addAmp (Sig.map f a) (Sig.scaleAmp k b))).den o n =
      (o.addAmp (f (a.den o n)) (o.scaleAmp (b.den o n) k)).map (o.clipSample t) := rfl

/-! ### non-vacuity: concrete trees (integer stereo frames, the driver's `intOps`-style operations) -/

def iops : Ops Int where
  eq := [0, 0]
  addAmp := List.zipWith (· + ·)
  mulAmp := List.zipWith (· * ·)
  scaleAmp f k := f.map (· * k)
  offsetAmp f k := f.map (· + k)
  clipSample := clipInt

/-- `delay 1 (clip_amp 4 (add_amp (from_iter [[1,2],[3,9]]) (from_samples [10,20,30,40,50]).offset_amp(-20)))` -/
def ex1 : Sig Int :=
  .delay 1 (.clipAmp 4 (.addAmp (.fromIter [[1, 2], [3, 9]]) (.offsetAmp (-20) (.fromSamples 2 [10, 20, 30, 40, 50]))))

example : (run iops 4 ex1.init).1 = [[0, 0], [-4, 2], [4, 4], [-4, -4]] := by decide
example : (List.range 4).map (ex1.den iops) = [[0, 0], [-4, 2], [4, 4], [-4, -4]] := by decide
example : (run iops 4 ex1.init).2.pulls = [3, 3] := by decide
example : ex1.pullsAfter 4 = [3, 3] := by decide
example : (run iops 3 (Sig.inspect (.fromIter [[1, 2], [3, 9]])).init).2.logs = [[[1, 2], [3, 9], [0, 0]]] := by decide
/-- by-ref hand-back: two steps through `scale_amp(3)` over `&mut s`, then `s` continues with its third frame -/
example : ((run iops 2 (.un (.scaleAmp 3) (.byRef (St.ofIter [[1, 2], [3, 4], [5, 6]])))).2.borrows.map fun s => (next iops s).1) = [[5, 6]] := by decide
example : clipInt 4 9 = 4 ∧ clipInt 4 (-9) = -4 ∧ clipInt 4 3 = 3 := by decide
example : NoDelay (Sig.zipMap (fun x _ => x) (.map id (.fromIter [[1, 2]])) (.gen fun i => [i, i]) : Sig Nat) := by simp [NoDelay]

end Dasp.Props.C04
