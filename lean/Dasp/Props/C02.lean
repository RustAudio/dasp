import Dasp.Gen.ConvFloatThm
/-!
# C02 — float ↔ integer sample conversion is exact scaling, truncating, within [-1, 1]

Property text (properties.jsonl, C02): converting any integer-format sample to f32 or f64
yields its signed amplitude divided by 2^(bits−1), correctly rounded to the float format:
always within [−1.0, 1.0], order-preserving, equilibrium to 0.0, and exact whenever the
integer width fits the float mantissa.  Converting any float in the documented domain
[−1.0, 1.0) to an integer format yields that float times 2^(bits−1) truncated toward zero
(re-offset for unsigned formats), which is always in range, order-preserving, maps 0.0 to
equilibrium and −1.0 to the minimum, and exactly inverts the integer-to-float conversion
wherever that was exact.  f32 to f64 is exact and f64 to f32 is the correctly rounded value.

`Dasp.Gen.i2fTable / f2iTable / f2fTable` are the float-involving bodies of `conv.rs` as
*regenerated from /repo on every run*; their meaning is the executable soft-float of
`Machine/FP.lean` + `Machine/FConv.lean` (one rounding per IEEE operation, `as` casts
truncating and saturating), which is validated bit-for-bit against the compiled functions
on every run.  `rv F q` is round-to-nearest-even of the positive rational `q` on the grid of
format `F` (`rne_spec` in `Lemmas/Rne.lean`, `rv_onGrid` and `rv_abs_err` in `Lemmas/Round.lean`).
-/
namespace Dasp.Props.C02
open Dasp Dasp.Gen

/-- **int→float main theorem**: for each of the 24 (integer format, float format) pairs and
    every in-range value, the code computes the signed amplitude divided by 2^(bits−1),
    correctly rounded (one round-to-nearest-even), `+0.0` at equilibrium. -/
theorem i2f_spec (s : Fmt) (p : FFmt) (v : ℤ) (h : s.inRange v) :
    (i2fTable s p).i2fVal v = specI2F p.fmt (v - s.off) (s.bits - 1) :=
  i2f_table_spec s p v h

/-- always within [−1.0, 1.0] -/
theorem i2f_range (s : Fmt) (p : FFmt) (v : ℤ) (h : s.inRange v) :
    -1 ≤ fpVal ((i2fTable s p).i2fVal v) ∧ fpVal ((i2fTable s p).i2fVal v) ≤ 1 := by
  rw [i2f_spec s p v h]
  obtain ⟨hp, he, _⟩ := p.room s.bits_pred_le
  exact specI2F_range p.fmt hp (by omega) _ _ (Fmt.amp_abs h)

/-- order-preserving -/
theorem i2f_mono (s : Fmt) (p : FFmt) (a b : ℤ) (ha : s.inRange a) (hb : s.inRange b) (h : a ≤ b) :
    fpVal ((i2fTable s p).i2fVal a) ≤ fpVal ((i2fTable s p).i2fVal b) := by
  rw [i2f_spec s p a ha, i2f_spec s p b hb]
  exact specI2F_mono p.fmt (p.room s.bits_pred_le).1 _ _ _ (by omega)

/-- equilibrium maps to `+0.0` -/
theorem i2f_equilibrium (s : Fmt) (p : FFmt) : (i2fTable s p).i2fVal s.off = .fin false 0 := by
  rw [i2f_spec s p s.off s.off_inRange, Int.sub_self]; rfl

/-- exact whenever the integer width fits the float mantissa -/
theorem i2f_exact (s : Fmt) (p : FFmt) (hfit : s.bits ≤ p.fmt.prec) (v : ℤ) (h : s.inRange v) :
    fpVal ((i2fTable s p).i2fVal v) = ((v - s.off : ℤ) : ℚ) / 2 ^ (s.bits - 1) := by
  rw [i2f_spec s p v h]
  obtain ⟨hp, he, _⟩ := p.room s.bits_pred_le
  exact specI2F_exact_val p.fmt hp _ _ (Fmt.amp_abs h) (by omega) (by omega)

/-! ### float → integer, on the documented domain −1.0 ≤ x < 1.0 -/

/-- **float→int main theorem**: for every representable `x = (−1)^n · q` of the source float
    format with −1 ≤ x < 1 (subnormals and −0.0 included) and each of the 12 integer formats:
    the code yields `trunc(x · 2^(bits−1))` re-offset for unsigned formats, and that is in range. -/
theorem f2i_spec (p : FFmt) (d : Fmt) (n : Bool) (q : ℚ) (hd : InDomain p.fmt n q) :
    (f2iTable p d).f2iVal (.fin n q) = truncQ (sval n q * 2 ^ (d.bits - 1)) + d.off ∧
    d.inRange ((f2iTable p d).f2iVal (.fin n q)) :=
  (f2i_table_spec p d).inDomain hd

/-- order-preserving -/
theorem f2i_mono' (p : FFmt) (d : Fmt) (n m : Bool) (q r : ℚ) (hq : InDomain p.fmt n q) (hr : InDomain p.fmt m r)
    (h : sval n q ≤ sval m r) : (f2iTable p d).f2iVal (.fin n q) ≤ (f2iTable p d).f2iVal (.fin m r) := by
  rw [(f2i_spec p d n q hq).1, (f2i_spec p d m r hr).1]
  exact Int.add_le_add_right (truncQ_mono (mul_le_mul_of_nonneg_right h (by positivity))) _

/-- ±0.0 maps to equilibrium -/
theorem f2i_zero' (p : FFmt) (d : Fmt) (n : Bool) : (f2iTable p d).f2iVal (.fin n 0) = d.off := by
  rw [(f2i_spec p d n 0 ⟨Or.inl rfl, by cases n <;> simp⟩).1, sval_of_zero_or_pos (Or.inl rfl),
    zero_mul, ← Int.cast_zero, truncQ_int, zero_add]

theorem one_onGrid (p : FFmt) : onGrid p.fmt 1 := by
  obtain ⟨hp, he, _⟩ := p.room (Nat.zero_le 63)
  exact_mod_cast onGrid_nat p.fmt hp (by omega) (n := 1) Nat.one_le_two_pow

/-- −1.0 maps to the minimum -/
theorem f2i_neg_one' (p : FFmt) (d : Fmt) : (f2iTable p d).f2iVal (.fin true 1) = d.lo := by
  rw [(f2i_spec p d true 1 ⟨Or.inr ⟨one_pos, one_onGrid p⟩, by simp⟩).1, show sval true 1 = -1 from rfl, neg_one_mul,
    show -(2 : ℚ) ^ (d.bits - 1) = ((-2 ^ (d.bits - 1) : ℤ) : ℚ) by push_cast; rfl, truncQ_int]
  have := d.lo_sub_off; omega

/-- float→int exactly inverts int→float wherever the latter was exact (bits ≤ mantissa) -/
theorem f2i_inverts_i2f (s : Fmt) (p : FFmt) (hfit : s.bits ≤ p.fmt.prec) (v : ℤ) (h : s.inRange v) :
    (f2iTable p s).f2iVal ((i2fTable s p).i2fVal v) = v := by
  rw [i2f_spec s p v h]
  obtain ⟨hp, he, _⟩ := p.room s.bits_pred_le
  obtain ⟨hlo, hhi⟩ := Fmt.amp_bound h
  obtain ⟨n, q, he, hd, ht⟩ := f2i_inverts_exact p.fmt hp (v - s.off) (s.bits - 1) hlo hhi (by omega) (by omega)
  rw [he, (f2i_spec p s n q hd).1, ht]; omega

/-- f32 → f64 is exact on every finite f32 value (inf ↦ inf, NaN ↦ NaN by definition of `cvt`) -/
theorem f32_to_f64_exact (n : Bool) (q : ℚ) (hq : q = 0 ∨ (0 < q ∧ onGrid Dasp.f32 q ∧ q < pow2 128)) :
    (f2fTable .f32 .f64).f2fVal (.fin n q) = .fin n q := by
  rw [f2f_table_spec]
  rcases hq with rfl | ⟨hpos, hgrid, hlt⟩
  · rw [cvt_fin _ _ le_rfl, rsm_zero]
  · -- the f64 grid is finer and reaches further
    rw [cvt_fin _ _ hpos.le]
    exact rsm_exact _ n (onGrid_finer Dasp.f32 Dasp.f64 (by decide) (by decide) hgrid)
      (lt_trans hlt (pow2_lt (by decide)))

/-- f64 → f32 is the correctly rounded value: round-to-nearest-even onto the f32 grid (within
    half an f32 ulp, representable), overflowing to ±inf only when the rounded magnitude
    reaches 2^128; zeros keep their sign -/
theorem f64_to_f32_rounded (n : Bool) (q : ℚ) (hpos : 0 < q) :
    (f2fTable .f64 .f32).f2fVal (.fin n q) = (if rv Dasp.f32 q < pow2 128 then .fin n (rv Dasp.f32 q) else .inf n)
    ∧ onGrid Dasp.f32 (rv Dasp.f32 q) ∧ |rv Dasp.f32 q - q| ≤ pow2 (gridExp Dasp.f32 q) / 2 := by
  rw [f2f_table_spec]
  exact ⟨(cvt_fin _ _ hpos.le).trans (rsm_eq _ n q), rv_onGrid _ (by decide) hpos, rv_abs_err _ q⟩

theorem f64_to_f32_zero (n : Bool) : (f2fTable .f64 .f32).f2fVal (.fin n 0) = .fin n 0 := by
  rw [f2f_table_spec]; simp [cvt]

/-! ### non-vacuity -/
example : Fmt.inRange .i16 (-12345) := by simp [Fmt.inRange]
example : InDomain Dasp.f32 true 1 := ⟨Or.inr ⟨by norm_num, one_onGrid .f32⟩, by simp⟩
example : InDomain Dasp.f64 false 0 := ⟨Or.inl rfl, by simp⟩
/-- 3/4 is an in-domain f32 value and converts to 96 as i8 -/
example : InDomain Dasp.f32 false (3/4) ∧ truncQ (sval false (3/4) * 2 ^ 7) = 96 := by
  refine ⟨⟨Or.inr ⟨by norm_num, ?_⟩, by norm_num⟩, ?_⟩
  · have h := onGrid_int_scaled Dasp.f32 (by norm_num [Dasp.f32]) (m := 3) (by norm_num) (by norm_num [Dasp.f32]) 2 (by norm_num [Dasp.f32])
    have e : ((3 : ℤ) : ℚ) / pow2 ((2 : ℕ) : ℤ) = 3 / 4 := by rw [pow2_nat]; norm_num
    rwa [e] at h
  · have : sval false (3/4) * (2 : ℚ) ^ 7 = ((96 : ℤ) : ℚ) := by norm_num [sval]
    rw [this, truncQ_int]

end Dasp.Props.C02
