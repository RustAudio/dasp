import Dasp.Lemmas.Sinc
/-!
# Cross-layer link: the ring of the Sinc interpolator (C18) is the `Fixed` of C06

The Sinc model (`Model/Sinc.lean`) carries its own `(data, first)` transcription of `Fixed::push`
and of the indexing.  They are the same functions as those of the `Fixed` transcription of
`Model/Ring.lean`: `Dasp.Sinc.toFixed_push` and `get_eq_fixed`, restated here in one theorem.
`Lemmas/Sinc.lean` reads a ring that has been pushed into through them and C06's `Fixed.extend_abs`,
`Fixed.get_abs` (`pushes_get`), and the exact delay of C18 rests on that.  (`LinkFork`, `LinkRms`,
`LinkNodes` do the same for C12/C14, C11/C19 and C16.)
-/
namespace Dasp.Props.LinkSinc
open Dasp.Ring

/-- **C18 ↔ C06.** The Sinc model's ring is the `Fixed` transcription itself: same `push`, and
    `(first + i) % len` reads the slot `Fixed::get`'s `(first + i % len) % len` reads -/
theorem sinc_ring_is_fixed {F : Type} (r : Dasp.Sinc.Ring F) (x : List F) (eq : List F) (i : Nat)
    (hi : (r.first + i) % r.len < r.data.length) :
    let f : Fixed (List F) := ⟨r.data, r.first⟩
    (Dasp.Sinc.Ring.push r x).data = (f.push x).1.data ∧ (Dasp.Sinc.Ring.push r x).first = (f.push x).1.first ∧
    Dasp.Sinc.Ring.get eq r i = f.get i :=
  ⟨congrArg (·.data) (Dasp.Sinc.toFixed_push r x), congrArg (·.first) (Dasp.Sinc.toFixed_push r x),
    Dasp.Sinc.get_eq_fixed eq r i hi⟩

end Dasp.Props.LinkSinc
