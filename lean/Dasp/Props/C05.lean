import Dasp.Lemmas.Signal
/-!
# C05 — Finite signals end exactly once: exhaustion is exact, contagious, then silent

Property text (properties.jsonl, C05): a signal built from an iterator of frames, or of
interleaved samples, yields exactly the iterator's complete frames in order (a trailing incomplete
frame is dropped), reports exhaustion exactly when none remain, and yields equilibrium frames
forever after.  Exhaustion propagates through every adaptor: a combining adaptor is exhausted as
soon as any input is, a delay stays live while emitting its leading silence, so `until_exhausted`
and `lift` over length-preserving adaptors yield exactly as many frames as the shortest source and
then stop for good.  `take(n)` yields exactly n frames, and interleaved-sample output yields exactly
frames x channels samples in channel order before returning None.

Model: `Model/Signal.lean` (hand transcription of dasp_signal/src/lib.rs, validated against the
real code by the `exhaust` stream); `Sig.len` is the length the property speaks of (`none` =
infinite; `min` over the inputs of a combining adaptor; `+ k` under `delay k`; `ss.length / n` for
`n`-channel frames cut from `ss`).  All theorems hold for expressions of arbitrary depth.
`St.len` / `St.den` (the same for a run-time state) and `live` are defined in `Lemmas/Signal.lean`.
This file holds the property theorems (with `bin_contagious`, the common form of the three `*_contagious`)
and their non-vacuity examples.
-/
namespace Dasp.Props.C05
open Dasp.Signal
variable {α : Type}

/-- "a signal built from an iterator of frames … yields exactly the iterator's … frames in order …
    and yields equilibrium frames forever after": the first `j` calls return `fs[0], fs[1], …` and
    `EQUILIBRIUM` from index `fs.length` on, for every `j` (so also arbitrarily far past the end) -/
theorem fromIter_outputs (o : Ops α) (fs : List (List α)) (j : Nat) :
    (run o j (Sig.fromIter fs).init).1 = (List.range j).map fun i => fs.getD i o.eq :=
  init_outputs o (.fromIter fs) j

/-- **exhaustion is exact** — for every expression: after `j` calls `is_exhausted` holds iff the
    expression's length is finite and `≤ j`.  (Sources without an end — `equilibrium`, `gen` —
    inherit the default `false`; every adaptor forwards or ORs.) -/
theorem exhausted_exact (o : Ops α) (s : Sig α) (j : Nat) :
    isExhausted (run o j s.init).2 = true ↔ ∃ l, s.len = some l ∧ l ≤ j := by
  rw [run_exhausted, init_len]

/-- the same from an arbitrary run-time state (`St.len` = meaningful frames left) -/
theorem exhausted_exact_from (o : Ops α) (t : St α) (j : Nat) :
    isExhausted (run o j t).2 = true ↔ ∃ l, t.len = some l ∧ l ≤ j := run_exhausted o j t

/-- "… reports exhaustion exactly when none remain": after `j` calls `is_exhausted` is true iff all
    `fs.length` frames have been yielded (the look-ahead slot decides without consuming) -/
theorem fromIter_exhausted (o : Ops α) (fs : List (List α)) (j : Nat) :
    isExhausted (run o j (Sig.fromIter fs).init).2 = true ↔ fs.length ≤ j := by
  rw [exhausted_exact]; simp [Sig.len]

/-- the source never calls `Iterator::next` again after the iterator has returned `None`: the
    iterator holds `fs.length` items, so its `(fs.length + 1)`-th call is the one returning `None`,
    and no state reachable by any number of `next` calls has made more calls than that
    (constructor's look-ahead included).  A non-fused iterator can therefore not leak items. -/
theorem fromIter_calls (o : Ops α) (fs : List (List α)) (j c : Nat)
    (h : (run o j (Sig.fromIter fs).init).2.calls = [c]) : c ≤ fs.length + 1 := by
  obtain ⟨_, _, c', e, hc⟩ := run_fromIter o j fs.head? fs.tail 1 0
  cases (congrArg St.calls e).symm.trans h
  have := pend_head_tail fs
  omega

/-- "… or of interleaved samples, yields exactly the iterator's complete frames in order (a trailing
    incomplete frame is dropped)": the outputs are the frames `chunks n ss`, then equilibrium … -/
theorem fromSamples_outputs (o : Ops α) (n : Nat) (ss : List α) (j : Nat) :
    (run o j (Sig.fromSamples n ss).init).1 = (List.range j).map fun i => (chunks n ss).getD i o.eq :=
  init_outputs o (.fromSamples n ss) j

/-- … where `chunks n ss` are exactly the complete frames: there are `ss.length / n` of them, each
    has `n` samples, and concatenated they are the sample stream minus the incomplete tail -/
theorem chunks_spec (n : Nat) (ss : List α) :
    (chunks n ss).length = ss.length / n ∧ (∀ f ∈ chunks n ss, f.length = n) ∧
      (chunks n ss).flatten = ss.take (ss.length / n * n) :=
  ⟨chunks_length n ss, chunks_mem_length n ss, chunks_flatten n ss⟩

theorem fromSamples_exhausted (o : Ops α) (n : Nat) (ss : List α) (j : Nat) :
    isExhausted (run o j (Sig.fromSamples n ss).init).2 = true ↔ ss.length / n ≤ j := by
  rw [exhausted_exact]; simp [Sig.len]

/-- the sample iterator is never called again after its `None` (it holds `ss.length` samples) -/
theorem fromSamples_calls (o : Ops α) (n : Nat) (ss : List α) (j c : Nat)
    (h : (run o j (Sig.fromSamples n ss).init).2.calls = [c]) : c ≤ ss.length + 1 := by
  obtain ⟨_, _, c', e, hc⟩ := run_fromSamples o j n (takeFrame n ss).1 (takeFrame n ss).2.1 (takeFrame n ss).2.2 0
  cases (congrArg St.calls e).symm.trans h
  have := pend_takeFrame n ss
  omega

/-- "yields equilibrium frames forever after", as a statement about the denotation -/
theorem fromIter_silent (o : Ops α) (fs : List (List α)) (i : Nat) (h : fs.length ≤ i) :
    (Sig.fromIter fs).den o i = o.eq := by
  simp [Sig.den, List.getD, List.getElem?_eq_none h]

theorem fromSamples_silent (o : Ops α) (n : Nat) (ss : List α) (i : Nat) (h : ss.length / n ≤ i) :
    (Sig.fromSamples n ss).den o i = o.eq := by
  simp [Sig.den, List.getD, List.getElem?_eq_none (chunks_length n ss ▸ h)]

/-- the output of every expression, before and after its end, is its denotation: past the end the
    sources contribute equilibrium frames (`fromIter_silent`) and the adaptors keep applying their
    frame functions — no other effect of the end exists -/
theorem outputs_past_end (o : Ops α) (s : Sig α) (j : Nat) :
    (run o j s.init).1 = (List.range j).map (s.den o) := init_outputs o s j

/-- "a combining adaptor is exhausted as soon as any input is": both inputs are stepped in lock-step
    (`run_bin`) and `is_exhausted` of the adaptor is the OR of theirs — for every combining adaptor and
    any two run-time states -/
theorem bin_contagious (o : Ops α) (b : Bin α) (a c : St α) (j : Nat) :
    isExhausted (run o j (.bin b a c)).2 = true ↔
      isExhausted (run o j a).2 = true ∨ isExhausted (run o j c).2 = true := by
  rw [run_bin]; exact Bool.or_eq_true_iff

theorem zipMap_contagious (o : Ops α) (m : List α → List α → List α) (a b : Sig α) (j : Nat) :
    isExhausted (run o j (Sig.zipMap m a b).init).2 = true ↔
      isExhausted (run o j a.init).2 = true ∨ isExhausted (run o j b.init).2 = true :=
  bin_contagious o _ _ _ j

theorem addAmp_contagious (o : Ops α) (a b : Sig α) (j : Nat) :
    isExhausted (run o j (Sig.addAmp a b).init).2 = true ↔
      isExhausted (run o j a.init).2 = true ∨ isExhausted (run o j b.init).2 = true :=
  bin_contagious o _ _ _ j

theorem mulAmp_contagious (o : Ops α) (a b : Sig α) (j : Nat) :
    isExhausted (run o j (Sig.mulAmp a b).init).2 = true ↔
      isExhausted (run o j a.init).2 = true ∨ isExhausted (run o j b.init).2 = true :=
  bin_contagious o _ _ _ j

theorem len_zipMap (m : List α → List α → List α) (a b : Sig α) : (Sig.zipMap m a b).len = minLen a.len b.len := rfl

/-- the one-source adaptors are length-preserving (they forward `is_exhausted`) -/
theorem len_preserved (m : List α → List α) (k t : α) (fr : List α) (s : Sig α) :
    (Sig.map m s).len = s.len ∧ (Sig.scaleAmp k s).len = s.len ∧ (Sig.offsetAmp k s).len = s.len ∧
    (Sig.scaleAmpPerChannel fr s).len = s.len ∧ (Sig.offsetAmpPerChannel fr s).len = s.len ∧
    (Sig.clipAmp t s).len = s.len ∧ (Sig.inspect s).len = s.len ∧ (Sig.byRef s).len = s.len :=
  ⟨rfl, rfl, rfl, rfl, rfl, rfl, rfl, rfl⟩

/-- "a delay stays live while emitting its leading silence" — even over an already exhausted source … -/
theorem delay_live (o : Ops α) (k : Nat) (s : Sig α) (j : Nat) (h : j < k) :
    isExhausted (run o j (Sig.delay k s).init).2 = false := by
  show isExhausted (run o j (.delay k s.init)).2 = false
  rw [run_delay]
  show (k - j == 0 && _) = false
  rw [show (k - j == 0) = false from beq_false_of_ne (by omega)]; rfl

/-- … and afterwards it is exhausted exactly when its source is (the silence shifts the end by `k`) -/
theorem delay_after (o : Ops α) (k : Nat) (s : Sig α) (j : Nat) :
    isExhausted (run o (k + j) (Sig.delay k s).init).2 = true ↔ isExhausted (run o j s.init).2 = true := by
  show isExhausted (run o (k + j) (.delay k s.init)).2 = true ↔ _
  rw [run_delay, Nat.sub_eq_zero_of_le (Nat.le_add_right k j), Nat.add_sub_cancel_left]
  exact Iff.of_eq (congrArg (· = true) (Bool.true_and _))

/-- "`until_exhausted` … yield[s] exactly as many frames as the shortest source and then stop[s] for
    good": the `i`-th call of the iterator returns `Some(den s i)` while `i < len s` and `None` for
    every later call (for all `m`, i.e. however long one keeps calling); an infinite expression
    never stops.  `len s` is the minimum over the sources by `len_zipMap` / `len_preserved`. -/
theorem untilExhausted_exact (o : Ops α) (s : Sig α) (m : Nat) :
    (runOpt (untilNext o) m s.init).1 =
      (List.range m).map fun i => if live s.len i then some (s.den o i) else none := by
  rw [until_run, init_len, init_den]

/-- … and it has pulled exactly `min (len s) m` frames from the signal -/
theorem untilExhausted_state (o : Ops α) (s : Sig α) (m : Nat) :
    (runOpt (untilNext o) m s.init).2 = (run o (match s.len with | none => m | some l => min l m) s.init).2 := by
  rw [until_run, init_len]; rfl

/-- from any state, e.g. `by_ref().until_exhausted()` on a signal that has been running -/
theorem untilExhausted_exact_from (o : Ops α) (t : St α) (m : Nat) :
    (runOpt (untilNext o) m t).1 = (List.range m).map fun i => if live t.len i then some (t.den o i) else none :=
  congrArg Prod.fst (until_run o m t)

/-- `lift(iter, f)` = `f(from_iter(iter)).until_exhausted()`: with a stack of length-preserving
    adaptors it yields exactly `fs.length` frames — the composition of the frame functions applied to
    the iterator's frames — and then `None` for good -/
theorem lift_exact (o : Ops α) (fs : List (List α)) (us : List (Un α)) (m : Nat) :
    (runOpt (untilNext o) m (lift fs fun src => us.foldr St.un src)).1 =
      (List.range m).map fun i =>
        if i < fs.length then some (us.foldr (fun u f => u.apply o f) (fs.getD i o.eq)) else none := by
  rw [lift, until_run, stack_len, ofIter_len]
  apply List.map_congr_left; intro i _
  simp [live, stack_den, ofIter_den]

/-- `lift` with a combining adaptor: as many frames as the shorter of the iterator and the other signal -/
theorem lift_zip_len (fs : List (List α)) (b : Bin α) (other : St α) :
    (lift fs fun src => St.bin b src other).len = minLen (some fs.length) other.len := by
  simp [lift, St.len, ofIter_len]

/-- "`take(n)` yields exactly n frames": calls `0 … n-1` return the signal's next `n` frames
    (whether or not the signal is exhausted), every later call `None`; the signal has been pulled
    `min n m` times -/
theorem take_exact (o : Ops α) (s : Sig α) (n m : Nat) :
    (runOpt (TakeSt.next o) m ⟨n, s.init⟩).1 = (List.range m).map (fun i => if i < n then some (s.den o i) else none)
    ∧ (runOpt (TakeSt.next o) m ⟨n, s.init⟩).2 = ⟨n - m, (run o (min n m) s.init).2⟩ := by
  rw [take_run, init_den]; exact ⟨rfl, rfl⟩

/-- "interleaved-sample output yields exactly frames x channels samples in channel order before
    returning None": for a finite expression of `l` frames (each with at least one channel — Rust
    frames have 1..32), call `i` of `next_sample` returns the `i`-th entry of the frames
    `den s 0, …, den s (l-1)` laid end to end and `None` from then on, however often it is called.
    (The code re-tests `is_exhausted` only when it needs a new frame, so `None` is final.) -/
theorem interleaved_exact (o : Ops α) (s : Sig α) (l : Nat) (hl : s.len = some l)
    (hne : ∀ i, i < l → s.den o i ≠ []) (m : Nat) :
    (runOpt (ILSt.nextSample o) m ⟨none, s.init⟩).1 =
      (List.range m).map fun i => (((List.range l).map (s.den o)).flatten)[i]? := by
  rw [il_run o m ⟨none, s.init⟩ l ⟨by rw [init_len]; exact hl, by rw [init_den]; exact hne⟩]
  simp [ILSt.flat, init_den]

/-- with `n`-channel frames that is exactly `l * n` samples -/
theorem interleaved_count (o : Ops α) (s : Sig α) (l n : Nat) (hn : ∀ i, i < l → (s.den o i).length = n) :
    (((List.range l).map (s.den o)).flatten).length = l * n := by
  induction l with
  | zero => simp
  | succ l ih =>
    rw [List.range_succ, List.map_append, List.flatten_append, List.length_append,
      ih (fun i hi => hn i (Nat.lt_succ_of_lt hi))]
    simp [hn l (Nat.lt_succ_self l), Nat.succ_mul]

/-! ### non-vacuity: concrete trees -/

def iops : Ops Int where
  eq := [0, 0]
  addAmp := List.zipWith (· + ·)
  mulAmp := List.zipWith (· * ·)
  scaleAmp f k := f.map (· * k)
  offsetAmp f k := f.map (· + k)
  clipSample := clipInt

/-- 5 samples in 2-channel frames: 2 complete frames, the 5th sample is dropped -/
def src5 : Sig Int := .fromSamples 2 [10, 20, 30, 40, 50]
/-- `delay 1 (add_amp (from_iter 3 frames) (5 samples / 2 channels))`: length 1 + min 3 2 = 3 -/
def ex1 : Sig Int := .delay 1 (.addAmp (.fromIter [[1, 2], [3, 4], [5, 6]]) src5)

example : chunks 2 [10, 20, 30, 40, 50] = [[10, 20], [30, 40]] := by decide
example : (run iops 4 src5.init).1 = [[10, 20], [30, 40], [0, 0], [0, 0]] := by decide
example : (List.range 5).map (fun j => isExhausted (run iops j src5.init).2) = [false, false, true, true, true] := by decide
example : (run iops 4 src5.init).2.calls = [6] := by decide       -- 5 samples + the one `None`, never more
example : (run iops 9 (Sig.fromIter [[1, 2], [3, 4]]).init).2.calls = [3] := by decide
example : ex1.len = some 3 := by decide
example : (List.range 6).map (fun j => isExhausted (run iops j ex1.init).2) = [false, false, false, true, true, true] := by decide
/-- a delay over an empty source is live during its silence -/
example : (List.range 4).map (fun j => isExhausted (run iops j (Sig.delay 2 (.fromIter ([] : List (List Int)))).init).2) = [false, false, true, true] := by decide
example : (runOpt (untilNext iops) 5 ex1.init).1 = [some [0, 0], some [11, 22], some [33, 44], none, none] := by decide
example : (runOpt (untilNext iops) 4 (lift [[1, 2], [3, 4]] fun src => .un (.offsetAmp 1) src)).1 = [some [2, 3], some [4, 5], none, none] := by decide
example : (runOpt (TakeSt.next iops) 4 ⟨2, src5.init⟩).1 = [some [10, 20], some [30, 40], none, none] := by decide
example : (runOpt (TakeSt.next iops) 4 ⟨3, src5.init⟩).1 = [some [10, 20], some [30, 40], some [0, 0], none] := by decide
example : (runOpt (ILSt.nextSample iops) 6 ⟨none, src5.init⟩).1 = [some 10, some 20, some 30, some 40, none, none] := by decide
example : src5.len = some 2 ∧ ∀ i, i < 2 → src5.den iops i ≠ [] := by decide

end Dasp.Props.C05
