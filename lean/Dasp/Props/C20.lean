import Dasp.Lemmas.Window
import Dasp.Lemmas.RoundRel
/-! # C20 — Windowing yields the documented window shape and chunk schedule

Property text (properties.jsonl, C20): "The Hann window at phase p equals 0.5*(1 - cos(2*pi*p)), lying in
[0, 1], symmetric about p = 0.5 where it is 1 and 0 at both ends, the rectangle window is 1 everywhere,
and a window of n >= 2 frames samples the phases i/(n-1) for i = 0..n-1. A windower over L frames with bin
size b >= 2 and hop h >= 1 yields exactly floor((L-b)/h)+1 chunks when L >= b and none otherwise, the first
b frames of chunk k being frames k*h .. k*h+b-1 each scaled by the window value for its position. The
windower's size hint is consistent with the number of chunks it actually yields."

What is THEOREM here and what is MEASURED:
* theorem — everything about the `Windower` schedule, chunk contents and `size_hint` (exact list/integer
  code, arbitrary frame type); the window shape and the sampled phases in EXACT arithmetic
  (`ratArith twoPi cos` with `cos`/`2π` arbitrary: each theorem states the one fact about `cos` it needs);
  `Windowed` = source frame × window value with `mul_amp` and the f64→float conversion as parameters.
* measured (correspondence run, `harness/src/bin/c20.rs`, notes in `evidence/C20.json`) — that the same
  definitions instantiated at native binary64 (`floatArith`) reproduce the real code bit for bit
  (incl. libm `cos`), the deviation of the accumulated f64 phases from `i/(n-1)`, of Hann from its
  closed form, and the float symmetry `hann(p) ≈ hann(1−p)`.

The SAME definitions (`hann`, `windowPhases`, `windowed`, …) are used at both instances. -/
namespace Dasp.Window

variable {α : Type}

/-! ## Window shape (exact arithmetic; `c` stands for `cos`, `t` for `2π`) -/

/-- "The Hann window at phase p equals 0.5*(1 - cos(2*pi*p))" — the definition the driver runs,
    unfolded at the exact instance -/
theorem hann_formula (t : Rat) (c : Rat → Rat) (p : Rat) :
    hann (ratArith t c) p = 1 / 2 * (1 - c (p * t)) := rfl

/-- … and at the native instance it is literally the expression of hann/mod.rs:24-26 -/
example (p : Float) : hann floatArith p = 0.5 * (1.0 - Float.cos (p * Float.ofBits 0x401921FB54442D18)) := rfl

/-- the window arithmetic with every `− ×` followed by a rounding `rnd` (the literals 0.5, 1.0 are exact) -/
def rndWinArith (rnd : Rat → Rat) (t : Rat) (c : Rat → Rat) : Arith Rat :=
  { ratArith t c with
    add := fun a b => rnd (a + b), sub := fun a b => rnd (a - b), mul := fun a b => rnd (a * b), div := fun a b => rnd (a / b) }

/-- "lying in [0, 1]" IN FLOATING POINT: for any rounding that is monotone and leaves 0, 1 and 2 unchanged
    (round-to-nearest-even does), and a cosine routine whose result at the point evaluated lies in [−1, 1],
    the computed `0.5 * (1.0 - cos(phase * 2π))` lies in [0, 1] — the two roundings cannot push it out -/
theorem hann_range_rounded (rnd : Rat → Rat) (hmono : ∀ x y, x ≤ y → rnd x ≤ rnd y)
    (h0 : rnd 0 = 0) (h1 : rnd 1 = 1) (h2 : rnd 2 = 2) (t : Rat) (c : Rat → Rat) (p : Rat)
    (hc : -1 ≤ c (rnd (p * t)) ∧ c (rnd (p * t)) ≤ 1) :
    0 ≤ hann (rndWinArith rnd t c) p ∧ hann (rndWinArith rnd t c) p ≤ 1 := by
  show 0 ≤ rnd (1 / 2 * rnd (1 - c (rnd (p * t)))) ∧ rnd (1 / 2 * rnd (1 - c (rnd (p * t)))) ≤ 1
  -- a monotone rounding keeps a value on the side of a fixed point it is on
  have a0 : 0 ≤ rnd (1 - c (rnd (p * t))) := h0.symm.trans_le (hmono 0 _ (sub_nonneg.mpr hc.2))
  have a2 : rnd (1 - c (rnd (p * t))) ≤ 2 := (hmono _ 2 (by linarith [hc.1])).trans_eq h2
  exact ⟨h0.symm.trans_le (hmono 0 _ (by linarith)), (hmono _ 1 (by linarith)).trans_eq h1⟩

/-- "lying in [0, 1]" in exact arithmetic — assuming only `|cos| ≤ 1` at the point evaluated: the case
    `rnd = id` of the above -/
theorem hann_range (t : Rat) (c : Rat → Rat) (p : Rat) (hc : -1 ≤ c (p * t) ∧ c (p * t) ≤ 1) :
    0 ≤ hann (ratArith t c) p ∧ hann (ratArith t c) p ≤ 1 :=
  hann_range_rounded id (fun _ _ h => h) rfl rfl rfl t c p hc

/-- … and binary64's round-to-nearest-even (the rounding of the executable soft-float) is such a rounding -/
theorem hann_range_f64 (t : Rat) (c : Rat → Rat) (p : Rat)
    (hc : -1 ≤ c (Dasp.rs Dasp.f64 (p * t)) ∧ c (Dasp.rs Dasp.f64 (p * t)) ≤ 1) :
    0 ≤ hann (rndWinArith (Dasp.rs Dasp.f64) t c) p ∧ hann (rndWinArith (Dasp.rs Dasp.f64) t c) p ≤ 1 :=
  hann_range_rounded _ (fun _ _ h => Dasp.rs_mono Dasp.f64 (by decide) h) (Dasp.rs_zero Dasp.f64)
    (by simpa using Dasp.rs_nat Dasp.f64 (by decide) (by decide) (n := 1) (by decide))
    (by simpa using Dasp.rs_nat Dasp.f64 (by decide) (by decide) (n := 2) (by decide)) t c p hc

/-- "0 at both ends": wherever the cosine is 1 (p = 0 and p = 1 for the true cosine) -/
theorem hann_zero_where_cos_one (t : Rat) (c : Rat → Rat) (p : Rat) (hc : c (p * t) = 1) :
    hann (ratArith t c) p = 0 := by
  rw [hann_formula, hc]; norm_num

/-- p = 0 in particular, for any `cos` with `cos 0 = 1` -/
theorem hann_zero_at_zero (t : Rat) (c : Rat → Rat) (hc : c 0 = 1) : hann (ratArith t c) 0 = 0 :=
  hann_zero_where_cos_one t c 0 (by simpa using hc)

/-- "p = 0.5 where it is 1": wherever the cosine is −1 (2π·½ = π for the true cosine) -/
theorem hann_one_where_cos_neg_one (t : Rat) (c : Rat → Rat) (p : Rat) (hc : c (p * t) = -1) :
    hann (ratArith t c) p = 1 := by
  rw [hann_formula, hc]; norm_num

/-- "symmetric about p = 0.5" — from `cos(2π(1−p)) = cos(2πp)`, an explicit hypothesis (it is a fact
    about the real cosine; for libm's f64 `cos` the deviation is measured, ≤ 6e-16 on the grid) -/
theorem hann_symmetric (t : Rat) (c : Rat → Rat) (p : Rat) (hc : c ((1 - p) * t) = c (p * t)) :
    hann (ratArith t c) (1 - p) = hann (ratArith t c) p := hann_congr t c hc

/-- "the rectangle window is 1 everywhere" (any arithmetic, any phase) -/
theorem rectangle_is_one {F : Type} (A : Arith F) (p : F) : rectangle A p = A.one := rfl

/-- "a window of n >= 2 frames samples the phases i/(n-1) for i = 0..n-1": the phase stepped by
    `1/(n−1)` and wrapped modulo 1 yields, as its `i`-th value, `(i mod (n−1))/(n−1)` — for any number
    of items, i.e. also beyond the window. -/
theorem windowPhases_exact (t : Rat) (c : Rat → Rat) (n : Nat) (hn : 2 ≤ n) (cnt : Nat) :
    windowPhases (ratArith t c) n cnt =
      (List.range cnt).map (fun i => ((i % (n - 1) : Nat) : Rat) / ((n - 1 : Nat) : Rat)) := by
  have hstart : newWindow (ratArith t c) n =
      ⟨1 / ((n - 1 : Nat) : Rat), ((0 % (n - 1) : Nat) : Rat) / ((n - 1 : Nat) : Rat)⟩ := by
    simp only [newWindow, rat_div, rat_sub, rat_ofNat, rat_one, rat_zero, Nat.cast_pred (show 1 ≤ n by omega),
      Nat.zero_mod, Nat.cast_zero, zero_div]
  unfold windowPhases
  rw [hstart, phasesFrom_rat t c (n - 1) cnt 0]
  simp only [Nat.zero_add]

/-- the `n` phases of the window itself: `i/(n−1)` for `i = 0..n−2`, and the end point `i = n−1`
    (phase 1) is sampled as its representative `0` modulo 1 — exactly what the code does
    (`(next + step) % 1.0`, signal lib.rs:1927). Under `cos(2π·1) = cos(2π·0)` the Hann value there is the
    one at phase 1 (`hann_end_point`). -/
theorem window_samples_i_over_n_minus_1 (t : Rat) (c : Rat → Rat) (n : Nat) (hn : 2 ≤ n) :
    windowPhases (ratArith t c) n n =
      (List.range n).map (fun i => if i < n - 1 then (i : Rat) / ((n : Rat) - 1) else 0) := by
  rw [windowPhases_exact t c n hn n]
  apply List.map_congr_left
  intro i hi
  have hi' : i < n := List.mem_range.mp hi
  split
  · rename_i h; rw [Nat.mod_eq_of_lt h, Nat.cast_pred (by omega)]
  · have e : i = n - 1 := by omega
    rw [e, Nat.mod_self]; simp

/-- the wrapped end point carries the window value of phase 1 -/
theorem hann_end_point (t : Rat) (c : Rat → Rat) (hc : c (1 * t) = c (0 * t)) :
    hann (ratArith t c) 0 = hann (ratArith t c) 1 := (hann_congr t c hc).symm

/-- `Windowed` (window/mod.rs:181-186) pairs the `j`-th source frame with the `j`-th value of a fresh
    `Window::new(len)` and applies `mul_amp` channel by channel — for every arithmetic (exact or native),
    window kind, `mul_amp` and f64→float conversion. -/
theorem windowed_is_frame_times_window {F S Amp : Type} (A : Arith F) (k : Kind) (toAmp : F → Amp)
    (mulAmp : S → Amp → S) (chunk : List (List S)) :
    windowed A k toAmp mulAmp chunk =
      List.zipWith (fun frame p => frame.map fun s => mulAmp s (toAmp (window A k p)))
        chunk (windowPhases A chunk.length chunk.length) := by
  simp [windowed, windowValues, List.zipWith_map_right]

theorem windowed_frame_exact {S Amp : Type} (t : Rat) (c : Rat → Rat) (k : Kind) (toAmp : Rat → Amp)
    (mulAmp : S → Amp → S) (chunk : List (List S)) (hn : 2 ≤ chunk.length) (j : Nat) (hj : j < chunk.length) :
    (windowed (ratArith t c) k toAmp mulAmp chunk)[j]? =
      chunk[j]?.map fun frame => frame.map fun s => mulAmp s (toAmp (window (ratArith t c) k
        (if j < chunk.length - 1 then (j : Rat) / ((chunk.length : Rat) - 1) else 0))) := by
  rw [windowed_is_frame_times_window, window_samples_i_over_n_minus_1 t c _ hn]
  simp [List.getElem?_zipWith, List.getElem?_eq_getElem hj, List.getElem?_range hj]

/-! ## The chunk schedule of `Windower` (any frame type; every state, hence every reachable state) -/

/-- "yields exactly floor((L-b)/h)+1 chunks when L >= b and none otherwise, … chunk k being frames
    k*h .. k*h+b-1": the chunks still to come from ANY windower state with `hop ≥ 1`, `bin ≥ 1` are the
    slices `frames[k·hop .. k·hop+bin)` for `k < count`, `count = (L−b)/h + 1` if `L ≥ b` else 0
    (`L` = remaining frames). The code needs only `bin ≥ 1` for this; the property asks `b ≥ 2`. -/
theorem chunks_spec (w : Windower α) (hh : 1 ≤ w.hop) (hb : 1 ≤ w.bin) :
    chunks w = (List.range (count w.bin w.hop w.frames.length)).map
      (fun k => (w.frames.drop (k * w.hop)).take w.bin) :=
  chunksFuel_spec _ w hh hb (by omega)

theorem chunk_count (w : Windower α) (hh : 1 ≤ w.hop) (hb : 1 ≤ w.bin) :
    (chunks w).length =
      if w.bin ≤ w.frames.length then (w.frames.length - w.bin) / w.hop + 1 else 0 := by
  rw [chunks_spec w hh hb]; simp [count]

theorem chunk_contents (w : Windower α) (hh : 1 ≤ w.hop) (hb : 1 ≤ w.bin) (k : Nat)
    (hk : k < (chunks w).length) :
    ∃ ch, (chunks w)[k]? = some ch ∧ ch.length = w.bin ∧
      ∀ j, j < w.bin → k * w.hop + j < w.frames.length ∧ ch[j]? = w.frames[k * w.hop + j]? := by
  rw [chunks_spec w hh hb, List.length_map, List.length_range] at hk
  have hle := count_mul_le hk
  refine ⟨_, chunks_getElem w hh hb k hk, ?_, fun j hj => ⟨by omega, ?_⟩⟩
  · rw [List.length_take, List.length_drop]; omega
  · rw [List.getElem?_take, if_pos hj, List.getElem?_drop]

/-- "the first b frames of chunk k being frames k*h .. k*h+b-1 each scaled by the window value for its
    position" — schedule and `Windowed` combined, in exact arithmetic, `b ≥ 2`: channel by channel,
    output frame `j` of chunk `k` is `mul_amp(frames[k·h+j], W(j/(b−1)))` (last position: `W(0) = W(1 mod 1)`). -/
theorem windower_chunk_frame {S Amp : Type} (t : Rat) (c : Rat → Rat) (kind : Kind) (toAmp : Rat → Amp)
    (mulAmp : S → Amp → S) (w : Windower (List S)) (hh : 1 ≤ w.hop) (hb : 2 ≤ w.bin)
    (k : Nat) (hk : k < (chunks w).length) (j : Nat) (hj : j < w.bin) :
    ∃ ch src, (chunks w)[k]? = some ch ∧ w.frames[k * w.hop + j]? = some src ∧
      (windowed (ratArith t c) kind toAmp mulAmp ch)[j]? =
        some (src.map fun s => mulAmp s (toAmp (window (ratArith t c) kind
          (if j < w.bin - 1 then (j : Rat) / ((w.bin : Rat) - 1) else 0)))) := by
  obtain ⟨ch, h1, h2, h3⟩ := chunk_contents w hh (by omega) k hk
  obtain ⟨hlt, hel⟩ := h3 j hj
  refine ⟨ch, _, h1, List.getElem?_eq_getElem hlt, ?_⟩
  rw [windowed_frame_exact t c kind toAmp mulAmp ch (by omega) j (by omega), hel, h2, List.getElem?_eq_getElem hlt]
  rfl

/-- "The windower's size hint is consistent with the number of chunks it actually yields": in every
    state with `hop ≥ 1`, `bin ≥ 1` — `next` never changes `bin`/`hop` (`next_keeps_bin_hop`), so in every
    state reachable from such a windower — the hint is exact: lower = upper = chunks still to come. -/
theorem sizeHint_exact (w : Windower α) (hh : 1 ≤ w.hop) (hb : 1 ≤ w.bin) :
    sizeHint w = ((chunks w).length, some (chunks w).length) := by
  rw [chunk_count w hh hb]
  unfold sizeHint
  split
  · simp [show w.hop ≠ 0 by omega]
  · rfl

/-- lower ≤ chunks-yet-to-come ≤ upper (the form `Iterator::size_hint` promises) -/
theorem sizeHint_brackets (w : Windower α) (hh : 1 ≤ w.hop) (hb : 1 ≤ w.bin) :
    (sizeHint w).1 ≤ (chunks w).length ∧ ∀ u, (sizeHint w).2 = some u → (chunks w).length ≤ u := by
  rw [sizeHint_exact w hh hb]
  exact ⟨Nat.le_refl _, fun u h => by simp at h; omega⟩

theorem next_keeps_bin_hop (w w' : Windower α) (ch : List α) (h : next w = some (ch, w')) :
    w'.bin = w.bin ∧ w'.hop = w.hop := by
  rw [next_eq] at h
  split at h
  · cases h; exact ⟨rfl, rfl⟩
  · cases h

/-- the observation sequence the driver prints (`iterate`) contains exactly the chunks of `chunks`, in order -/
theorem iterate_yields_chunks (w : Windower α) :
    (iterate (w.frames.length + 1) w).filterMap (·.2) = chunks w :=
  iterate_chunks _ w

/-- HISTORICAL counter-witness (before fix commit 0af427c "Windower::size_hint counts the chunk that
    starts at the current position"): the OLD hint's upper bound was strictly below the number of chunks
    whenever at least one chunk remained — a violation of the property. Not about the
    current code; `sizeHintOld` is used nowhere else. -/
theorem old_sizeHint_one_short (w : Windower α) (hh : 1 ≤ w.hop) (hb : 1 ≤ w.bin)
    (hle : w.bin ≤ w.frames.length) :
    ∃ u, (sizeHintOld w).2 = some u ∧ u < (chunks w).length := by
  rw [chunk_count w hh hb]
  unfold sizeHintOld
  simp only [hle, if_true, show w.hop ≠ 0 by omega, if_false]
  split
  · exact ⟨_, rfl, Nat.lt_succ_self _⟩
  · exact ⟨0, rfl, Nat.succ_pos _⟩

/-- the witness: L = 8, bin = 2, hop = 1 → 7 chunks, old hint 6, current hint 7 -/
example : (chunks (⟨2, 1, List.range 8⟩ : Windower Nat)).length = 7 ∧
    sizeHintOld (⟨2, 1, List.range 8⟩ : Windower Nat) = (6, some 6) ∧
    sizeHint (⟨2, 1, List.range 8⟩ : Windower Nat) = (7, some 7) := by decide

/-! ## Outside the property's domain (what the code does for b = 0, b = 1, h = 0) -/

/-- `bin = 1` follows the same schedule (`chunks_spec` needs only `bin ≥ 1`); its `Window::new(1)` has
    step `1/0` but only the first phase, 0, is used. `bin = 0`: `next` never returns `None` — an infinite
    iterator of empty chunks (while `size_hint` reports a finite count: out of domain, not claimed). -/
theorem bin_zero_never_ends (w : Windower α) (hb : w.bin = 0) : ∃ w', next w = some ([], w') := by
  rw [next_eq, if_pos (hb ▸ Nat.zero_le _), hb]; exact ⟨_, rfl⟩

/-- `hop = 0` with a chunk available: the same chunk forever (`size_hint` = `(usize::MAX, None)`) -/
theorem hop_zero_repeats (w : Windower α) (hh : w.hop = 0) (hle : w.bin ≤ w.frames.length) :
    next w = some (w.frames.take w.bin, w) ∧ sizeHint w = (usizeMax, none) := by
  obtain ⟨b, h, f⟩ := w
  subst hh
  exact ⟨by rw [next_eq, if_pos hle]; rfl, by unfold sizeHint; rw [if_pos hle, if_pos rfl]⟩

/-! ## Non-vacuity: windowers at the boundary cases, exact phases, and one cosine that meets the hypotheses of all shape theorems -/

-- L = 11, b = 4, h = 3: (11−4)/3+1 = 3 chunks at offsets 0, 3, 6; the last hop is partial (frame 10 unused)
example : chunks (⟨4, 3, List.range 11⟩ : Windower Nat) = [[0, 1, 2, 3], [3, 4, 5, 6], [6, 7, 8, 9]] := by decide
example : (iterate 12 (⟨4, 3, List.range 11⟩ : Windower Nat)).map (·.1) =
    [(3, some 3), (2, some 2), (1, some 1), (0, some 0)] := by decide
-- L == b: one chunk; L < b: none; h > L: one chunk
example : chunks (⟨3, 1, [7, 8, 9]⟩ : Windower Nat) = [[7, 8, 9]] ∧ chunks (⟨4, 1, [7, 8, 9]⟩ : Windower Nat) = [] ∧
    chunks (⟨2, 50, [7, 8, 9]⟩ : Windower Nat) = [[7, 8]] := by decide
-- exact phases of a 5-frame window: 0, 1/4, 1/2, 3/4 and the wrapped end point 0; the 6th item is 1/4 again
example : windowPhases (ratArith 0 id) 5 6 = [0, 1/4, 1/2, 3/4, 0, 1/4] := by decide +kernel
-- the cosine hypotheses are satisfiable together, non-trivially: a "triangle cosine" of period 1 in
-- turns (t = 1); the piecewise-linear c below has c 0 = 1, c (1/2) = −1, |c| ≤ 1 on [0,1] and
-- c (1 − p) = c p there
def triCos (x : Rat) : Rat := if x ≤ 1 / 2 then 1 - 4 * x else 4 * x - 3
example : triCos 0 = 1 ∧ triCos (1 / 2) = -1 ∧ triCos (1 * 1) = triCos (0 * 1) := by decide +kernel
example : hann (ratArith 1 triCos) 0 = 0 ∧ hann (ratArith 1 triCos) (1 / 2) = 1 ∧
    hann (ratArith 1 triCos) (1 / 4) = 1 / 2 ∧ hann (ratArith 1 triCos) (3 / 4) = hann (ratArith 1 triCos) (1 / 4) := by
  decide +kernel
-- Windowed with an exact "mul_amp" (plain multiplication): a 3-frame stereo chunk under the triangle-cosine Hann
example : windowed (ratArith 1 triCos) .hann id (fun (s a : Rat) => s * a) [[2, 4], [6, 8], [10, 12]] =
    [[0, 0], [6, 8], [0, 0]] := by decide +kernel

end Dasp.Window
