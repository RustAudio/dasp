import Dasp.Lemmas.Buffered
/-!
# C14 — Buffered signals are a transparent prefetch of the source

Property text (properties.jsonl, C14): *For any ring-buffer capacity, any pre-filled content
and any internal start offset, a buffered signal yields the pre-filled frames first and then
exactly the source's frames in order, whether consumed frame by frame or in batches, pulling
exactly one buffer's worth of source frames each time it runs empty and none otherwise.  It
reports exhaustion only when the source is exhausted and every buffered frame has been
delivered, so draining it to exhaustion yields the source's frames followed by fewer than one
buffer of equilibrium padding.*

Model: `Dasp/Model/Buffered.lean` (transcription of dasp_signal/src/lib.rs:775-784,
2426-2515, 2328-2340; the ring buffer is the ideal capacity-bounded FIFO queue — independence
of the internal start offset is C06's theorem about `Bounded`, and is exercised on the real
code by the harness).  `future s i` is the `i`-th frame still owed in state `s` (buffered
frames, then the source from its current position, then equilibrium); for a freshly built
buffered signal it is `(prefill ++ source).getD i equilibrium` (`future_fresh`).
`Delivers s out s'` (Lemmas/Buffered.lean): `out` is exactly the next `out.length` frames of
`future s`, `future s'` is `future s` shifted by that many, the source position moved by a
whole number of buffers, and `out.length + buffered' = buffered + pulled` (nothing lost).
Only property theorems and non-vacuity examples live in this file.
-/
namespace Dasp.Props.C14
open Dasp.Buffered Dasp.SrcQueue

variable {α : Type}

/-- *"yields the pre-filled frames first and then exactly the source's frames in order"*: what
    a freshly built `signal.buffered(ring_buffer)` owes is pre-fill ++ source ++ equilibrium… -/
theorem future_fresh (src : Src α) (prefill : List α) (cap : Nat) (h0 : src.pos = 0) (i : Nat) :
    future (init src prefill cap) i = (prefill ++ src.frames).getD i src.eq := by
  rw [future_eq_getD]; show (prefill ++ src.frames.drop src.pos).getD i src.eq = _; rw [h0]; rfl

/-- *"consumed frame by frame"*: `Buffered::next` returns the next owed frame and leaves the rest
    owed, in every state (any pre-fill, any source position) and for every capacity ≥ 1 -/
theorem next_transparent (s : St α) (hc : 1 ≤ s.cap) :
    (next s).1 = future s 0 ∧ ∀ i, future (next s).2 i = future s (i + 1) := by
  have h := next_delivers s hc
  refine ⟨?_, h.fut⟩
  simpa [List.range_succ] using h.out_eq

/-- the loop in `Buffered::next` terminates: after a refill the pop succeeds (the model's
    totalising last arm is unreachable for capacity ≥ 1) -/
theorem next_refill_pop_succeeds (s : St α) (hq : s.q = []) (hc : 1 ≤ s.cap) : (refill s).q ≠ [] :=
  refill_nonempty s hq hc

/-- *"or in batches"* (partially or fully drained): `next_frames()` followed by `k` steps of the
    returned iterator yields the first `k` frames buffered after the (possible) refill, then
    `None`s — the iterator never refills — and whatever was not yielded stays buffered -/
theorem next_frames_shape (s : St α) (k : Nat) :
    exec s (.frames k) =
      ((List.range k).map ((beginFrames s).q[·]?), { beginFrames s with q := (beginFrames s).q.drop k }) :=
  iterN_spec k (beginFrames s)

/-- *"in batches"*, the batch advanced with `Iterator::nth` (what `skip` / `step_by` use):
    `next_frames().nth(k)` — `k+1` iterator steps of which the client sees the last — hands out the
    frame `k` places into the buffer (after the possible refill) if there is one and `None` otherwise,
    and consumes exactly the frames up to and including it: nothing further is lost or duplicated
    (the state is the one `next_frames_shape` gives for `k+1` steps, so `interleaving_transparent`
    applies to it as to any other operation) -/
theorem nth_is_last_of_frames (s : St α) (k : Nat) :
    (nthView (step s (.frames (k + 1))).1).out = [(beginFrames s).q[k]?] ∧
    (step s (.frames (k + 1))).2 = { beginFrames s with q := (beginFrames s).q.drop (k + 1) } := by
  simp only [step, nthView, look, next_frames_shape, List.range_succ, List.map_append, List.map_cons, List.map_nil,
    List.getLast?_concat, and_true]
  rfl

/-- `next_frames().collect()` yields the whole buffer and leaves it empty -/
theorem next_frames_collect (s : St α) :
    exec s .drain = ((beginFrames s).q.map some, { beginFrames s with q := [] }) := by
  show iterN (beginFrames s).q.length (beginFrames s) = _
  rw [iterN_spec, List.drop_length]
  congr 1
  apply List.ext_getElem <;> simp

/-- **C14 main theorem** — *"whether consumed frame by frame or in batches"*: for every capacity
    ≥ 1, every state (any pre-fill) and every finite interleaving of `next()`, `next_frames()`
    with `k` iterator steps (partial drain, or beyond the end), `next_frames().collect()`,
    `until_exhausted()` and plain observation: the concatenation of everything yielded is
    exactly the next frames owed, in order, none lost or duplicated; what is owed afterwards
    is the rest; the source was pulled in whole buffers only; and every pulled frame is either
    delivered or still buffered -/
theorem interleaving_transparent (ops : List Op) (s : St α) (hc : 1 ≤ s.cap) :
    Delivers s (delivered (trace s ops)) (run s ops) := by
  induction ops generalizing s with
  | nil => exact Delivers.refl s
  | cons o r ih =>
    have h1 := exec_delivers s hc o
    have h2 := ih (exec s o).2 (by rw [h1.cap_eq]; exact hc)
    exact h1.trans h2

/-- the same spelled out for a freshly built buffered signal: the `i`-th frame delivered by any
    interleaving is the `i`-th element of pre-fill ++ source, equilibrium beyond -/
theorem fresh_interleaving_output (src : Src α) (prefill : List α) (cap : Nat) (hc : 1 ≤ cap)
    (h0 : src.pos = 0) (ops : List Op) :
    delivered (trace (init src prefill cap) ops) =
      (List.range (delivered (trace (init src prefill cap) ops)).length).map
        (fun i => (prefill ++ src.frames).getD i src.eq) := by
  exact funext (future_fresh src prefill cap h0) ▸ (interleaving_transparent ops (init src prefill cap) hc).out_eq

/-- *"pulling exactly one buffer's worth of source frames each time it runs empty and none
    otherwise"*, per call: `next()` -/
theorem next_pulls_one_buffer_iff_empty (s : St α) :
    (next s).2.src.pos = if s.q = [] then s.src.pos + s.cap else s.src.pos := by
  rw [← beginFrames_pulls, next_eq]; split <;> rfl

/-- … `next_frames()` (even if the returned iterator is dropped undrained) -/
theorem next_frames_pulls_one_buffer_iff_empty (s : St α) :
    (beginFrames s).src.pos = if s.q = [] then s.src.pos + s.cap else s.src.pos := beginFrames_pulls s

/-- … and the draining iterator never pulls -/
theorem iterator_never_pulls (k : Nat) (s : St α) : (iterN k s).2.src = s.src := by
  rw [iterN_spec]

/-- over any interleaving the pull log is a sequence of whole buffers, and pulled = delivered +
    still buffered − initially buffered (so nothing is pulled that is not needed to refill an
    empty buffer, and nothing pulled is dropped) -/
theorem pulls_are_whole_buffers (ops : List Op) (s : St α) (hc : 1 ≤ s.cap) :
    (∃ k, (run s ops).src.pos = s.src.pos + k * s.cap) ∧
    (delivered (trace s ops)).length + (run s ops).q.length
      = s.q.length + ((run s ops).src.pos - s.src.pos) :=
  ⟨(interleaving_transparent ops s hc).bursts, (interleaving_transparent ops s hc).conserve⟩

/-- *"It reports exhaustion only when the source is exhausted and every buffered frame has been
    delivered"* (`is_exhausted`, lib.rs:2501-2503) -/
theorem is_exhausted_iff (s : St α) :
    isExhausted s = true ↔ s.q = [] ∧ s.src.isExhausted = true := by
  rw [isExhausted_iff]; simp [Src.isExhausted]

/-- … and then nothing but equilibrium is owed any more -/
theorem exhausted_only_equilibrium_left (s : St α) (h : isExhausted s = true) (i : Nat) :
    future s i = s.src.eq := by
  obtain ⟨hq, hn⟩ := (isExhausted_iff s).1 h
  rw [future_eq_getD, hq, List.drop_eq_nil_of_le hn]; rfl

/-- *"so draining it to exhaustion yields …"*, from any state: `until_exhausted` stops by itself
    (the fuel `ueFuel` the model passes suffices), yields exactly the next `need s` owed frames —
    everything buffered plus the remaining source rounded up to whole buffers — and ends exhausted -/
theorem until_exhausted_general (s : St α) (hc : 1 ≤ s.cap) :
    (untilExhausted (ueFuel s) s).1 = (List.range (need s)).map (future s) ∧
    isExhausted (untilExhausted (ueFuel s) s).2 = true := by
  obtain ⟨h1, h2⟩ := untilExhausted_count (ueFuel s) s hc (ueFuel_enough s hc)
  have h := (untilExhausted_delivers (ueFuel s) s hc).out_eq
  rw [h1] at h
  exact ⟨h, h2⟩

/-- *"draining it to exhaustion yields the source's frames followed by fewer than one buffer of
    equilibrium padding"*: for a freshly built buffered signal the output is
    pre-fill ++ source ++ padding with exactly `(cap − |source| mod cap) mod cap < cap`
    equilibrium frames (0 when the source is empty or a multiple of the capacity, whatever the
    pre-fill) -/
theorem until_exhausted_fresh (src : Src α) (prefill : List α) (cap : Nat) (hc : 1 ≤ cap)
    (h0 : src.pos = 0) :
    (untilExhausted (ueFuel (init src prefill cap)) (init src prefill cap)).1
      = prefill ++ src.frames ++ List.replicate ((cap - src.frames.length % cap) % cap) src.eq ∧
    (cap - src.frames.length % cap) % cap < cap ∧
    isExhausted (untilExhausted (ueFuel (init src prefill cap)) (init src prefill cap)).2 = true := by
  obtain ⟨h1, h2⟩ := until_exhausted_general (init src prefill cap) hc
  refine ⟨?_, Nat.mod_lt _ hc, h2⟩
  have hneed : need (init src prefill cap) =
      (prefill ++ src.frames).length + (cap - src.frames.length % cap) % cap := by
    simp only [need, roundUp, init, h0, Nat.sub_zero, List.length_append, Nat.add_assoc]
  rw [h1, hneed, funext (future_fresh src prefill cap h0), map_getD_range]

/-! ### non-vacuity: every hypothesis instantiated on concrete, non-trivial runs -/

private def src5 : Src Int := { frames := [1, 2, 3, 4, 5], eq := 0, pos := 0 }
private def view (o : Obs Int) : List (Option Int) × Nat × Bool := (o.out, o.pulls, o.exhausted)

/-- capacity 2, one pre-filled frame, 5-frame source (not a multiple of 2): frame by frame, a
    partially drained batch, a fully drained batch, drain to exhaustion (one padding frame),
    and a `next` after exhaustion (pulls one more buffer of equilibrium) -/
example : (trace (init src5 [99] 2) [.look, .next, .next, .frames 1, .next, .drain, .untilExhausted, .look, .next]).map view =
    [([], 0, false), ([some 99], 0, false), ([some 1], 2, false), ([some 2], 2, false), ([some 3], 4, false),
     ([some 4], 4, false), ([some 5, some 0], 6, true), ([], 6, true), ([some 0], 8, false)] := by decide

/-- a batch asked for more than is buffered yields `None`s without refilling; an undrained
    batch on an empty buffer still pulls one buffer's worth -/
example : (trace (init src5 [] 3) [.frames 5, .frames 0, .next]).map view =
    [([some 1, some 2, some 3, none, none], 3, false), ([], 6, false), ([some 4], 6, false)] := by decide

/-- capacity 1 and an empty source: exhausted at once, `until_exhausted` yields just the pre-fill -/
example : (trace (init ({ frames := [], eq := 0, pos := 0 } : Src Int) [7] 1) [.look, .untilExhausted]).map view =
    [([], 0, false), ([some 7], 0, true)] := by decide

example : (untilExhausted (ueFuel (init src5 [99] 2)) (init src5 [99] 2)).1 = [99, 1, 2, 3, 4, 5, 0] := by decide

end Dasp.Props.C14
