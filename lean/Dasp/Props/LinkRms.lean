import Dasp.Lemmas.RingOps
import Dasp.Model.Rms
/-!
# Cross-layer link: the delay line of the RMS detector (C11, C19) is the `Fixed` of C06

The RMS model (`Model/Rms.lean`) keeps its window as a list and pushes by `drop 1 ++ [x]`, reading the
oldest element off the head.  This module proves that this is the abstraction of the `Fixed`
transcription of `Model/Ring.lean` on every valid raw state (`fixed_is_delay_line`), and that one
`next_squared` step of a channel holding the ring as raw parts `(data, first)` commutes with that
abstraction (`chanF_nextSquared_sim`), so the refinement theorems of C06 compose with C11 and C19.
(`LinkFork`, `LinkSinc`, `LinkNodes` do the same for C12/C14, C18 and C16.)
-/
namespace Dasp.Props.LinkRms
open Dasp.Ring

variable {α : Type} [Inhabited α]

/-- **C11/C19 ↔ C06.** On every valid `Fixed` state: `push` is the ideal delay line the RMS model
    uses (`window.drop 1 ++ [x]`, returning the oldest element `window.head`) -/
theorem fixed_is_delay_line (f : Fixed α) (h : f.Inv) (x : α) :
    (f.push x).1.abs = f.abs.drop 1 ++ [x] ∧ some (f.push x).2 = f.abs.head? ∧
    (f.push x).1.Inv ∧ (f.push x).1.abs.length = f.abs.length := by
  obtain ⟨h1, h2⟩ := Dasp.Props.C06.Fixed.push_refines f x h
  refine ⟨List.drop_one ▸ h1, h2, Dasp.Props.C06.Fixed.push_inv f x h, ?_⟩
  rw [Dasp.Props.C06.Fixed.abs_length, Dasp.Props.C06.Fixed.abs_length, Dasp.Props.C06.Fixed.push_len]

/-! non-vacuity: a `Bounded` state with `start ≠ 0` and a rotated `Fixed` state -/
example : (⟨[30, 10, 20], 1, 2⟩ : Bounded Nat).Inv ∧ (⟨[30, 10, 20], 1, 2⟩ : Bounded Nat).abs = [10, 20] := by
  decide
example : (⟨[3, 1, 2], 1⟩ : Fixed Nat).Inv ∧ (⟨[3, 1, 2], 1⟩ : Fixed Nat).abs = [1, 2, 3] := by
  decide

section rmsSim
open Dasp.Rms Dasp.Arith

variable {β : Type} [Arith β] [Inhabited β]

/-- one channel of the detector with the ring buffer as `Fixed` raw parts `(data, first)` -/
structure ChanF (β : Type) where
  f : Fixed β
  sum : β

def ChanF.abs (c : ChanF β) : Chan β := ⟨c.f.abs, c.sum⟩

/-- `Rms::next_squared` (lib.rs:137-158), one channel, calling `Fixed::push` where the code does -/
def ChanF.nextSquared (c : ChanF β) (s : β) : ChanF β × β :=
  let sq := mul s s
  let r := c.f.push sq
  let diff := sub (add c.sum sq) r.2
  let sum := if lt diff zero then zero else diff
  (⟨r.1, sum⟩, div sum (ofLen r.1.len))

/-- **C11/C19 over the real ring-buffer state**: for every valid `Fixed` state (any `first`), one
    `next_squared` step on the concrete state yields the same output and commutes with the
    abstraction to the window-as-list model that `Props/C11.lean` reasons about -/
theorem chanF_nextSquared_sim (c : ChanF β) (h : c.f.Inv) (s : β) :
    (ChanF.nextSquared c s).2 = (Chan.nextSquared c.abs s).2 ∧
    (ChanF.nextSquared c s).1.abs = (Chan.nextSquared c.abs s).1 ∧ (ChanF.nextSquared c s).1.f.Inv := by
  obtain ⟨a, t, ha, h2, h1⟩ := Dasp.Props.C06.Fixed.push_cons c.f (mul s s) h
  have hlen : (c.f.push (mul s s)).1.len = (t ++ [mul s s]).length := by
    rw [← h1]; exact (Dasp.Props.C06.Fixed.abs_length _).symm
  refine ⟨?_, ?_, Dasp.Props.C06.Fixed.push_inv c.f _ h⟩
  · simp only [ChanF.nextSquared, Chan.nextSquared, Chan.calcSquared, ChanF.abs, ha, h2, hlen, List.headD_cons,
      List.drop_one, List.tail_cons]
  · simp only [ChanF.nextSquared, Chan.nextSquared, ChanF.abs, ha, h1, h2, List.headD_cons, List.drop_one,
      List.tail_cons]

end rmsSim

end Dasp.Props.LinkRms
