import Dasp.Lemmas.Nodes
import Dasp.Props.C06
/-!
# C16 — built-in graph nodes compute their documented mixing, routing, delay functions

Property text (properties.jsonl, C16): For any number of inputs and of buffers per input, the sum node
writes to each output channel the sample-wise sum of that channel over all inputs that have it, the
sum-buffers node writes to every output buffer the sum of all buffers of all inputs, and the pass node
copies the buffers of a single input unchanged onto the corresponding outputs, leaving surplus outputs
untouched.  The delay node delays each channel by exactly the length of that channel's ring buffer, in
samples, continuously across successive process calls; a signal node writes successive frames of its
signal de-interleaved into the per-channel buffers, one buffer length per call.  Boxed, borrowed,
closure, function-pointer and nested-graph nodes behave exactly like the node or graph they wrap.

Model: `Dasp/Model/Nodes.lean` (transcribed loops of node/*.rs over `List (List α)` buffers of `LEN = 64`
samples, generic in the sample type: the driver runs the same definitions on `Float32`).  Sums are
stated as left folds starting from `0` in input order — exactly the sequence of `f32` additions the
code performs — so the theorems hold verbatim for floating point (no associativity is used).
The delay node's ring is the `Fixed` of C06 (`Lemmas/Nodes.lean`: `push_eq_fixed`, `pushAll_eq_fixed`), so the
delay theorems come from C06's `Fixed.pushAll_spec` and `Fixed.kth_push_returns`.
The forwarding wrappers (`&mut T`, `Box<T>`, `BoxedNode(Send)`, `dyn Fn/FnMut`, `fn`) have no model
counterpart: they are validated by the correspondence stream only (every wrapper × every node kind).
-/
namespace Dasp.Props.C16
open Dasp.Nodes Dasp.Graph

variable {α : Type}

/-- **C16, sum.** "the sum node writes to each output channel the sample-wise sum of that channel over
    all inputs that have it" — for every input count (none ⇒ silence), every combination of channel
    counts: output channel `c`, sample `i` = `((0 + x₁) + x₂) + …` over the channel-`c` buffers of the
    inputs that have a channel `c`, in input order; the number of output buffers is unchanged. -/
theorem sum_spec [Add α] [Zero α] (inputs : List (Bufs α)) (output : Bufs α)
    (hin : ∀ inp ∈ inputs, BufsOk inp) :
    (sum inputs output).length = output.length ∧
    ∀ c, c < output.length → ∃ row, (sum inputs output)[c]? = some row ∧ row.length = LEN ∧
      ∀ i, i < LEN → row[i]? = some (mixAt i (chan c inputs)) := by
  refine ⟨by simp [sum], fun c hc => ?_⟩
  obtain ⟨h1, h2⟩ := mix_silent (chan c inputs) (chan_ok c inputs hin)
  exact ⟨_, sum_getElem? inputs hc, h1, h2⟩

/-- no inputs (or no input with that channel) ⇒ silence -/
theorem sum_silence [Add α] [Zero α] (inputs : List (Bufs α)) (output : Bufs α) (c : Nat) (hc : c < output.length)
    (h : chan c inputs = []) : (sum inputs output)[c]? = some silent := by
  rw [sum_getElem? inputs hc, h]; rfl

/-- **C16, sum-buffers.** "the sum-buffers node writes to every output buffer the sum of all buffers of
    all inputs": every output buffer, sample `i` = left fold of `+` from `0` over all buffers of all
    inputs (input by input, buffer by buffer). -/
theorem sumBuffers_spec [Add α] [Zero α] (inputs : List (Bufs α)) (output : Bufs α)
    (hin : ∀ inp ∈ inputs, BufsOk inp) :
    (sumBuffers inputs output).length = output.length ∧
    ∀ c, c < output.length → ∃ row, (sumBuffers inputs output)[c]? = some row ∧ row.length = LEN ∧
      ∀ i, i < LEN → row[i]? = some (mixAt i inputs.flatten) := by
  obtain ⟨h1, h2⟩ := mix_silent inputs.flatten fun b hb => by
    obtain ⟨inp, hinp, hb'⟩ := List.mem_flatten.mp hb
    exact hin inp hinp b hb'
  rw [sumBuffers_eq]
  exact ⟨List.length_map _, fun c hc => ⟨_, by rw [List.getElem?_map, List.getElem?_eq_getElem hc]; rfl, h1, h2⟩⟩

/-- **C16, pass.** "the pass node copies the buffers of a single input unchanged onto the corresponding
    outputs, leaving surplus outputs untouched": with no input nothing changes; otherwise output `c` is
    the FIRST input's buffer `c` for `c < min(outputs, its buffers)`, every other output is untouched. -/
theorem pass_spec (inputs : List (Bufs α)) (output : Bufs α) :
    (pass inputs output).length = output.length ∧
    (inputs = [] → pass inputs output = output) ∧
    ∀ first rest, inputs = first :: rest →
      (∀ c, c < output.length → c < first.length → (pass inputs output)[c]? = first[c]?) ∧
      (∀ c, first.length ≤ c → (pass inputs output)[c]? = output[c]?) := by
  cases inputs with
  | nil => exact ⟨rfl, fun _ => rfl, fun _ _ h => by simp at h⟩
  | cons f r =>
    refine ⟨by simp [pass, zipCopy_length], fun h => by simp at h, ?_⟩
    intro first rest h
    simp at h; obtain ⟨rfl, rfl⟩ := h
    exact ⟨fun c h1 h2 => (zipCopy_getElem? output f c).trans (if_pos ⟨h1, h2⟩),
      fun c h2 => (zipCopy_getElem? output f c).trans (if_neg fun h => Nat.not_lt_of_le h2 h.2)⟩

/-- consecutive `process` calls as seen by ONE channel of a delay node: block `j` is that channel's
    input buffer in call `j`, the result lists the channel's output buffer of every call -/
def delayStream (r : Ring α) : List (Buf α) → Option (Ring α × List (Buf α))
  | [] => some (r, [])
  | b :: bs =>
    match pushAll r b with
    | none => none
    | some (r', o) =>
      match delayStream r' bs with
      | none => none
      | some (r'', os) => some (r'', o :: os)

/-- **C16, delay.** "The delay node delays each channel by exactly the length of that channel's ring
    buffer, in samples, continuously across successive process calls": over any number of consecutive
    calls the concatenated output of the channel is `initial ring content ++ concatenated input`,
    truncated to the number of samples fed — and every call's output block has its input block's length. -/
theorem delayStream_spec (blocks : List (Buf α)) : ∀ (r : Ring α), r.Ok →
    ∃ r' outs, delayStream r blocks = some (r', outs) ∧ r'.Ok ∧ r'.data.length = r.data.length ∧
      outs.flatten = (r.content ++ blocks.flatten).take blocks.flatten.length ∧
      outs.map List.length = blocks.map List.length ∧
      r'.content = (r.content ++ blocks.flatten).drop blocks.flatten.length := by
  induction blocks with
  | nil => intro r h; exact ⟨r, [], rfl, h, rfl, by simp, rfl, by simp⟩
  | cons b bs ih =>
    intro r h
    obtain ⟨r1, o, hp, hok1, hlen1, holen, hsplit⟩ := pushAll_spec b r h
    obtain ⟨r2, os, hp2, hok2, hlen2, hos, hlens, hc2⟩ := ih r1 hok1
    have hwhole : r.content ++ (b ++ bs.flatten) = o ++ (r1.content ++ bs.flatten) := by
      rw [← List.append_assoc, hsplit, List.append_assoc]
    refine ⟨r2, o :: os, by simp [delayStream, hp, hp2], hok2, by omega, ?_, by simp [holen, hlens], ?_⟩
    · simp only [List.flatten_cons, List.length_append]
      rw [hwhole, ← holen, List.take_length_add_append, hos]
    · simp only [List.flatten_cons, List.length_append]
      rw [hwhole, ← holen, List.drop_length_add_append, hc2]

/-- **k-th push**: sample `k` of the output stream is the initial content while `k < N` and the input
    sample fed `N` pushes earlier afterwards (`N` = ring length) -/
theorem delay_kth (r : Ring α) (h : r.Ok) (xs : Buf α) (k : Nat) (hk : k < xs.length) :
    ∃ r' outs, pushAll r xs = some (r', outs) ∧
      outs[k]? = if k < r.data.length then r.content[k]? else xs[k - r.data.length]? := by
  -- the default element of `Fixed`'s `data[i]!` reads, none of which is out of range
  haveI : Inhabited α := ⟨r.data[r.first]'h⟩
  exact ⟨_, _, pushAll_eq_fixed xs r h, by
    rw [Dasp.Props.C06.Fixed.kth_push_returns xs r.toFixed h k hk, content_eq_abs r h]; rfl⟩

/-- the delay node applies `pushAll` channel-wise to the FIRST input, as far as rings, input buffers and
    outputs all reach; further rings and outputs are untouched; no input ⇒ nothing happens -/
theorem delayChans_spec : ∀ (rings : List (Ring α)) (ins outs : Bufs α), (∀ r ∈ rings, r.Ok) →
    ∃ rs' os', delayChans rings ins outs = some (rs', os') ∧ rs'.length = rings.length ∧
      os'.length = outs.length ∧ (∀ r ∈ rs', r.Ok) ∧
      ∀ c,
        (c < rings.length → c < ins.length → c < outs.length →
          ∃ r b r' o, rings[c]? = some r ∧ ins[c]? = some b ∧ pushAll r b = some (r', o) ∧
            rs'[c]? = some r' ∧ os'[c]? = some o) ∧
        ((rings.length ≤ c ∨ ins.length ≤ c ∨ outs.length ≤ c) → rs'[c]? = rings[c]? ∧ os'[c]? = outs[c]?) := by
  intro rings ins outs hok
  -- a missing ring, input buffer or output ends the zip: nothing changes and no index is below all three lengths
  induction rings generalizing ins outs with
  | nil => exact ⟨[], outs, rfl, rfl, rfl, hok, fun c => ⟨fun h => absurd h (Nat.not_lt_zero c), fun _ => ⟨rfl, rfl⟩⟩⟩
  | cons r rs ih =>
    rcases ins with _ | ⟨b, bs⟩
    · exact ⟨_, outs, rfl, rfl, rfl, hok, fun c => ⟨fun _ h => absurd h (Nat.not_lt_zero c), fun _ => ⟨rfl, rfl⟩⟩⟩
    rcases outs with _ | ⟨o, os⟩
    · exact ⟨_, [], rfl, rfl, rfl, hok, fun c => ⟨fun _ _ h => absurd h (Nat.not_lt_zero c), fun _ => ⟨rfl, rfl⟩⟩⟩
    obtain ⟨r', o', hp, hok1, -⟩ := pushAll_spec b r (hok r List.mem_cons_self)
    obtain ⟨rs', os', hr, hl1, hl2, hok2, hc⟩ := ih bs os fun x hx => hok x (List.mem_cons_of_mem _ hx)
    refine ⟨r' :: rs', o' :: os', by simp only [delayChans, hp, hr], congrArg (· + 1) hl1, congrArg (· + 1) hl2,
      List.forall_mem_cons.mpr ⟨hok1, hok2⟩, ?_⟩
    rintro (_ | c)
    · exact ⟨fun _ _ _ => ⟨r, b, r', o', rfl, rfl, hp, rfl, rfl⟩, fun h => by simp at h⟩
    · simpa only [List.length_cons, Nat.add_lt_add_iff_right, Nat.add_le_add_iff_right,
        List.getElem?_cons_succ] using hc c

theorem delay_no_input (rings : List (Ring α)) (output : Bufs α) : delay rings [] output = some (rings, output) := rfl

theorem delay_first_input (rings : List (Ring α)) (first : Bufs α) (rest : List (Bufs α)) (output : Bufs α) :
    delay rings (first :: rest) output = delayChans rings first output := rfl

/-- **C16, signal node.** "a signal node writes successive frames of its signal de-interleaved into the
    per-channel buffers, one buffer length per call": a call at position `pos` writes sample `ix` of
    channel `ch < min(CHANNELS, outputs)` := channel `ch` of frame `pos + ix`, leaves surplus outputs
    untouched and advances the signal by exactly `LEN` frames. -/
theorem signalNode_spec [Zero α] (s : Sig α) (output : Bufs α) (hf : ∀ k, (s.frame k).length = s.channels) :
    (signalNode s output).1.pos = s.pos + LEN ∧ (signalNode s output).1.frame = s.frame ∧
    (signalNode s output).1.channels = s.channels ∧
    (signalNode s output).2.length = output.length ∧
    (∀ ch, ch < s.channels → ch < output.length →
      ∃ row, (signalNode s output).2[ch]? = some row ∧ row.length = LEN ∧
        ∀ ix, ix < LEN → row[ix]? = (s.frame (s.pos + ix))[ch]?) ∧
    (∀ ch, min s.channels output.length ≤ ch → (signalNode s output).2[ch]? = output[ch]?) := by
  refine ⟨rfl, rfl, rfl, signalNode_length s output, fun ch h1 h2 => ?_, fun ch hch => ?_⟩
  · refine ⟨_, (signalNode_getElem? s output ch).trans (if_pos (by omega)), by simp, fun ix hix => ?_⟩
    have hlt : ch < (s.frame (s.pos + ix)).length := by rw [hf]; exact h1
    simp [hix, List.getD, List.getElem?_eq_getElem hlt]
  · exact (signalNode_getElem? s output ch).trans (if_neg (by omega))

/-- `j` consecutive `process` calls of a signal node, each on the buffers the call before left: the signal and
    the buffers after them -/
def signalRun [Zero α] (s : Sig α) (output : Bufs α) : Nat → Sig α × Bufs α
  | 0 => (s, output)
  | j + 1 => signalNode (signalRun s output j).1 (signalRun s output j).2

/-- … "one buffer length per call": after `j` calls the signal stands at frame `pos₀ + 64·j`, so call
    number `j` (counting from 0) writes frames `64·j … 64·j + 63` of what remained of the signal -/
theorem signalRun_pos [Zero α] (s : Sig α) (output : Bufs α) (j : Nat) :
    (signalRun s output j).1.pos = s.pos + LEN * j ∧ (signalRun s output j).1.frame = s.frame ∧
    (signalRun s output j).1.channels = s.channels ∧ (signalRun s output j).2.length = output.length := by
  induction j with
  | zero => exact ⟨rfl, rfl, rfl, rfl⟩
  | succ j ih =>
    obtain ⟨h1, h2, h3, h4⟩ := ih
    refine ⟨?_, h2, h3, (signalNode_length _ _).trans h4⟩
    show (signalRun s output j).1.pos + LEN = _; rw [h1, Nat.mul_succ]; omega

/-- **C16, nested graph.** "nested-graph nodes behave exactly like the … graph they wrap": when the
    designated inner input nodes exist the node is copy-in ∘ `process` (the C09 model) ∘ copy-out —
    outer output `c` is the inner output node's buffer `c` as far as both reach, the rest untouched. -/
theorem graphNode_spec (nodeFn : Nat → List (Bufs α) → Bufs α → Bufs α) (g : PG) (p : Proc)
    (buf : Nat → Bufs α) (inputNodes : List Nat) (outputNode : Nat) (inputs : List (Bufs α)) (output : Bufs α)
    (hex : ∀ e ∈ inputs.zip inputNodes, e.2 < g.bound ∧ g.live e.2 = true) :
    graphNode nodeFn g p buf inputNodes outputNode inputs output =
      (process (fun n ins => nodeFn n ins (copyIn inputs inputNodes buf n)) g p (copyIn inputs inputNodes buf) outputNode).map
        (fun r => { proc := r.proc, buf := r.buf, output := zipCopy output (r.buf outputNode) }) := by
  have hall : ((inputs.zip inputNodes).all fun e => decide (e.2 < g.bound) && g.live e.2) = true := by
    rw [List.all_eq_true]
    exact fun e he => by rw [Bool.and_eq_true, decide_eq_true_eq]; exact hex e he
  unfold graphNode
  rw [if_pos hall]
  dsimp only
  cases process _ g p _ outputNode <;> rfl

/-- copy-in touches only the designated input nodes that actually receive an input -/
theorem copyIn_other (inputs : List (Bufs α)) (inputNodes : List Nat) (buf : Nat → Bufs α) (m : Nat)
    (h : ∀ e ∈ inputs.zip inputNodes, e.2 ≠ m) : copyIn inputs inputNodes buf m = buf m := by
  unfold copyIn
  generalize inputs.zip inputNodes = l at h
  induction l generalizing buf with
  | nil => rfl
  | cons e l ih =>
    simp only [List.foldl_cons]
    rw [ih _ (fun x hx => h x (List.mem_cons_of_mem _ hx))]
    have : m ≠ e.2 := fun c => h e (by simp) c.symm
    simp [this]

/-! ### non-vacuity (samples in `Int`, buffers of 64 samples) -/

def constBuf (v : Int) : Buf Int := List.replicate LEN v

/-- two inputs with 2 and 1 buffers into 3 outputs: channel 0 gets both, channel 1 only the first input,
    channel 2 is silenced; sum-buffers adds all three buffers; pass copies two channels, keeps the third -/
example :
    sum [[constBuf 1, constBuf 10], [constBuf 100]] [constBuf 7, constBuf 7, constBuf 7]
      = [constBuf 101, constBuf 10, constBuf 0] ∧
    sumBuffers [[constBuf 1, constBuf 10], [constBuf 100]] [constBuf 7, constBuf 7]
      = [constBuf 111, constBuf 111] ∧
    pass [[constBuf 1, constBuf 10], [constBuf 100]] [constBuf 7, constBuf 7, constBuf 7]
      = [constBuf 1, constBuf 10, constBuf 7] ∧
    (∀ inp ∈ [[constBuf 1, constBuf 10], [constBuf 100]], BufsOk inp) := by
  refine ⟨by decide, by decide, by decide, ?_⟩
  intro inp h b hb
  simp at h
  rcases h with rfl | rfl <;> simp at hb <;> (try rcases hb with rfl | rfl) <;> simp [constBuf, *]

/-- a ring of length 3 starting in the middle of its storage: content is read oldest-first, and two
    consecutive blocks come out delayed by exactly 3 samples, continuously -/
example : (⟨1, [30, 10, 20]⟩ : Ring Int).Ok ∧ (⟨1, [30, 10, 20]⟩ : Ring Int).content = [10, 20, 30] ∧
    (delayStream (⟨1, [30, 10, 20]⟩ : Ring Int) [[1, 2], [3, 4, 5]]).map (·.2) = some [[10, 20], [30, 1, 2]] := by
  refine ⟨by unfold Ring.Ok; decide, by decide, by decide⟩

/-- a 2-channel signal into 3 outputs: two buffers written de-interleaved, the third untouched -/
example : let s : Sig Int := ⟨2, fun k => [k, -k], 0⟩
    (∀ k, (s.frame k).length = s.channels) ∧
    ((signalRun s [constBuf 7, constBuf 7, constBuf 7] 2).2[0]?.bind (·[5]?)) = some 69 ∧
    ((signalRun s [constBuf 7, constBuf 7, constBuf 7] 2).2[1]?.bind (·[5]?)) = some (-69) ∧
    ((signalRun s [constBuf 7, constBuf 7, constBuf 7] 2).2[2]?) = some (constBuf 7) := by
  refine ⟨fun _ => rfl, by decide, by decide, by decide⟩

end Dasp.Props.C16
