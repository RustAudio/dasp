import Dasp.Lemmas.Rms
import Dasp.Lemmas.SqrtTrick
import Dasp.Lemmas.RmsRounding
import Dasp.Lemmas.RoundRel
import Mathlib.Analysis.Real.Sqrt
import Mathlib.Tactic.NormNum
/-!
# C11 — Windowed RMS equals the true RMS of the last N frames in every configuration

Property text (properties.jsonl, C11): *After any sequence of input frames and resets, the RMS
detector's output for each channel equals the square root of the mean of the squares of the most
recent N frames (a zero-initialised window counting as preceding silence) to within a rigorous
floating-point error bound, is never negative or NaN for finite input, and a reset restores the
all-zero state. This holds for float and integer frame formats, every window length and channel
count, through the signal adaptor as well, and in both the std build and the no_std build (where
the square root may be an approximation, within 7% relative error plus a negligible absolute term
at zero).*

`Dasp.Rms` (Model/Rms.lean) transcribes `dasp_rms/src/lib.rs` once, generically over the
arithmetic class `Dasp.Arith`; `driver_c11` runs it at the machine's binary32 / binary64 against the
compiled crate (std and no_std builds) on every run, the theorems below are about the *same*
definitions at an arbitrary linearly ordered field `K` (`ℚ`, `ℝ`), i.e. in exact arithmetic.
`hist ch ops` = per channel, the inputs since the last reset after the history `ops`;
`meanSq n l` = (sum of the last `n` entries of `0,…,0 (n times), l₀², l₁², …`) / n.

What is proved here and what is only measured:
* exact arithmetic, every history / N ≥ 1 / channel count: PROVED (sections 1-4);
* the no_std square root, every positive normal f32 / f64 bit pattern, constants read from
  ops.rs on this run: PROVED (section 5);
* "never negative": the clamp makes the running sum non-negative in ANY arithmetic: PROVED
  (`running_sum_never_negative`);
* *"to within a rigorous floating-point error bound"*: PROVED in section 6 for the standard model of
  rounded arithmetic (every operation = the exact one followed by a rounding `rnd` with
  `|rnd x − x| ≤ u·|x| + η`), for the very same `Chan.nextSquared`: after `k` frames since the last
  reset the returned mean square is within `δ + u·B + η + (1+u)·E_{k+1}/N` of the exact mean, with
  `E_{k+1} ≤ 2(k+1)(u(3N+4)B + 3η)` while `6u(k+1) ≤ 1`; the rounding of the executable soft-float
  (`Machine/FP.round`, = IEEE binary32/binary64 as validated bit-for-bit on every run) is proved to
  satisfy the hypothesis with `u = 2^−prec`, `η = 2^(emin−1)`, absent overflow.  What stays MEASURED:
  that no operation overflows for the inputs at hand (NaN-freedom; known finding for huge inputs),
  and — as a cross-check of the theorem's hypotheses against the hardware — the harness compares
  every output's deviation with an explicit bound formula on every run.
-/
set_option linter.unusedSectionVars false  -- `rounded_reset_restarts` does not use the order on `K`

namespace Dasp.Props.C11
open Dasp Dasp.Exact Dasp.Rms

variable {K : Type} [Field K] [LinearOrder K] [IsStrictOrderedRing K]

/-! ## 1. The invariant: `square_sum` = sum of the window, so the clamp never fires -/

/-- *"After any sequence of input frames and resets"*: the state reached from the zero-initialised
    detector by ANY history is the specified one — every channel's window holds exactly the last `n`
    squares (zero-padded) of that channel's inputs since the last reset, and `square_sum` is exactly
    their sum. -/
theorem state_after_history {n : Nat} (hn : 1 ≤ n) (ch : Nat) (sqrt : K → K) (ops : List (Op K)) :
    ((Rms.init ch n : Rms K).run sqrt ops).1 = Rms.spec n (hist ch ops) := by
  rw [Rms.init_eq, Rms.run_spec hn]; rfl

/-- the invariant in plain terms: in every reachable state, for every channel, the running sum equals
    the sum of the window, the window has length `n` and holds no negative entry -/
theorem square_sum_eq_window_sum {n : Nat} (hn : 1 ≤ n) (ch : Nat) (sqrt : K → K) (ops : List (Op K)) :
    ∀ c ∈ ((Rms.init ch n : Rms K).run sqrt ops).1.chans,
      c.sum = c.window.sum ∧ c.window.length = n ∧ ∀ y ∈ c.window, 0 ≤ y := by
  rw [state_after_history hn]
  intro c hc
  simp only [Rms.spec, List.mem_map] at hc
  obtain ⟨l, _, rfl⟩ := hc
  exact ⟨rfl, specWindow_length n l, specWindow_nonneg n l⟩

/-! ## 2. The outputs -/

/-- *"the RMS detector's output for each channel equals … the mean of the squares of the most recent
    N frames (a zero-initialised window counting as preceding silence)"*: after any history, the
    frame returned by `next_squared(f)` holds, per channel, the mean of the squares of the last `n`
    inputs of that channel (this one included); the clamp at zero did not alter it. -/
theorem next_squared_is_mean {n : Nat} (hn : 1 ≤ n) (ch : Nat) (sqrt : K → K) (ops : List (Op K)) (f : List K) :
    (((Rms.init ch n : Rms K).run sqrt ops).1.nextSquared f).2
      = List.zipWith (fun l x => meanSq n (l ++ [x])) (hist ch ops) f := by
  rw [state_after_history hn, Rms.nextSquared_spec hn]

/-- `next` returns the square root (whatever function the build uses for it) of exactly that mean -/
theorem next_is_sqrt_of_mean {n : Nat} (hn : 1 ≤ n) (ch : Nat) (sqrt : K → K) (ops : List (Op K)) (f : List K) :
    (((Rms.init ch n : Rms K).run sqrt ops).1.next sqrt f).2
      = List.zipWith (fun l x => sqrt (meanSq n (l ++ [x]))) (hist ch ops) f := by
  rw [state_after_history hn, Rms.next_spec hn]

/-- `current` likewise, without a new frame -/
theorem current_is_sqrt_of_mean {n : Nat} (hn : 1 ≤ n) (ch : Nat) (sqrt : K → K) (ops : List (Op K)) :
    ((Rms.init ch n : Rms K).run sqrt ops).1.current sqrt = (hist ch ops).map fun l => sqrt (meanSq n l) := by
  rw [state_after_history hn, Rms.current_spec]

/-- *"for each channel"*: channel `c` of the output depends on channel `c` of the inputs only -/
theorem per_channel {n : Nat} (hn : 1 ≤ n) (ch : Nat) (sqrt : K → K) (ops : List (Op K)) (f : List K) (c : Nat)
    (h1 : c < (hist ch ops).length) (h2 : c < f.length) :
    (((Rms.init ch n : Rms K).run sqrt ops).1.next sqrt f).2[c]? = some (sqrt (meanSq n ((hist ch ops)[c] ++ [f[c]]))) := by
  rw [next_is_sqrt_of_mean hn]
  simp [h1, h2]

/-- with an exact square root — over the reals — the output IS the true RMS: `√` of the mean of the squares of the last
    `n` inputs themselves (no padding in the formula; `n` divides also while fewer than `n` have arrived), and non-negative -/
theorem real_rms_is_true_rms {n : Nat} (hn : 1 ≤ n) (ch : Nat) (ops : List (Op ℝ)) (f : List ℝ) :
    (((Rms.init ch n : Rms ℝ).run Real.sqrt ops).1.next Real.sqrt f).2
      = List.zipWith (fun l x => Real.sqrt (((lastN n (l ++ [x])).map fun y => y * y).sum / n)) (hist ch ops) f
    ∧ ∀ o ∈ (((Rms.init ch n : Rms ℝ).run Real.sqrt ops).1.next Real.sqrt f).2, 0 ≤ o := by
  constructor
  · -- the zero padding is silent (`specWindow_sum`)
    rw [next_is_sqrt_of_mean hn]; simp only [meanSq, specWindow_sum]
  · rw [next_is_sqrt_of_mean hn]
    intro o ho
    obtain ⟨i, hi, rfl⟩ := List.mem_iff_getElem.mp ho
    rw [List.getElem_zipWith]; exact Real.sqrt_nonneg _

/-- for any square-root function that is exact on the value at hand (e.g. over `ℚ` when the mean is a
    perfect square): output² = mean -/
theorem next_sq_eq_mean {n : Nat} (hn : 1 ≤ n) (sqrt : K → K) (l : List K) (x : K)
    (hs : sqrt (meanSq n (l ++ [x])) * sqrt (meanSq n (l ++ [x])) = meanSq n (l ++ [x])) :
    let o := ((Chan.spec n l).next sqrt x).2
    o * o = meanSq n (l ++ [x]) := by
  simp only [Chan.next_spec hn]; exact hs

/-- the mean of squares is never negative (so an exact root exists over `ℝ`) -/
theorem mean_nonneg (n : Nat) (l : List K) : 0 ≤ meanSq n l :=
  div_nonneg (List.sum_nonneg (specWindow_nonneg n l)) (Nat.cast_nonneg n)

/-! ## 3. Reset -/

/-- *"a reset restores the all-zero state"*: after any history of well-formed frames, `reset` gives
    back exactly the state `Rms::new` built over the zero-initialised ring buffer -/
theorem reset_restores_initial_state {n : Nat} (hn : 1 ≤ n) (ch : Nat) (sqrt : K → K) (ops : List (Op K))
    (hw : ∀ op ∈ ops, op.WF ch) :
    ((Rms.init ch n : Rms K).run sqrt ops).1.reset = Rms.init ch n := by
  rw [state_after_history hn, Rms.reset_spec, Rms.init_eq]
  have hl : (hist ch ops).length = ch := hist_length ops hw _ (by simp)
  rw [List.map_const', hl]

/-- `window_frames` is `n` in every reachable state (the window never changes length) -/
theorem window_frames_const {n : Nat} (hn : 1 ≤ n) (ch : Nat) (hch : 1 ≤ ch) (sqrt : K → K) (ops : List (Op K))
    (hw : ∀ op ∈ ops, op.WF ch) :
    ((Rms.init ch n : Rms K).run sqrt ops).1.windowFrames = n := by
  rw [state_after_history hn]
  have hl : (hist ch ops).length = ch := hist_length ops hw _ (by simp)
  match h : hist ch ops with
  | [] => rw [h] at hl; simp at hl; omega
  | l :: ls => simp [Rms.windowFrames, Rms.spec, Chan.windowFrames_spec]

/-- what the detector HOLDS after any history (`rms.clone().into_parts()`): per channel, the window is exactly the
    last `n` squares (zero-padded, oldest first) of that channel's inputs since the last reset, and `square_sum` their sum -/
theorem parts_after_history {n : Nat} (hn : 1 ≤ n) (ch : Nat) (hch : 1 ≤ ch) (sqrt : K → K) (ops : List (Op K))
    (hw : ∀ op ∈ ops, op.WF ch) :
    (((Rms.init ch n : Rms K).run sqrt ops).1.step sqrt .parts).2 =
      .parts ((List.range n).map fun i => (hist ch ops).map fun l => (specWindow n l).getD i 0)
             ((hist ch ops).map fun l => (specWindow n l).sum) := by
  have hwf := window_frames_const hn ch hch sqrt ops hw
  simp only [Rms.step, hwf]
  rw [state_after_history hn]
  simp [Rms.spec, Chan.spec, Arith.zero, Function.comp_def]

/-! ## 4. Any arithmetic (floats included): the clamp; the signal adaptor -/

/-- *"is never negative"*, the part that holds in ANY arithmetic, the machine floats included: after
    `next_squared` the running sum is not `< 0` (only `0 < 0 = false` is used).  -/
theorem running_sum_never_negative {α : Type} [Arith α] (h0 : Arith.lt (Arith.zero : α) Arith.zero = false)
    (c : Chan α) (s : α) : Arith.lt (c.nextSquared s).1.sum Arith.zero = false := by
  simp only [Chan.nextSquared]
  split
  · exact h0
  · simp_all

/-- *"through the signal adaptor as well"* (any arithmetic): `k` outputs of `signal.rms(ring)` are the
    detector's outputs on the first `k` source frames; exactly one source frame is pulled per output -/
theorem adaptor_is_detector_on_source {α : Type} [Arith α] (sqrt : α → α) (k : Nat) (a : Adaptor α)
    (hk : k ≤ a.src.length) :
    (Adaptor.take sqrt k a).2 = (Rms.feed sqrt a.rms (a.src.take k)).2 ∧
    (Adaptor.take sqrt k a).1.pulls = a.pulls + k :=
  have ⟨hout, _, hpulls, _⟩ := Adaptor.take_eq_feed sqrt k a hk
  ⟨hout, hpulls⟩

/-! ## 5. The no_std square root (dasp_sample/src/ops.rs), constants regenerated from the source -/

open Dasp.SqrtTrick

/-- *"in … the no_std build (where the square root may be an approximation, within 7% relative
    error …)"*, f32: for EVERY positive normal binary32 `x` (exponent field 1..254, any mantissa) the
    bit trick returns a positive normal `a` with `0.93²·x ≤ a² ≤ 1.07²·x`, i.e. `0.93·√x ≤ a ≤ 1.07·√x`
    (sharper: `(1−3·2^−24)·x ≤ a² ≤ 1.125·x`, so `a/√x ∈ [0.9999999, 1.0607]`); the `u32` addition
    does not overflow (no panic in builds with overflow checks). -/
theorem nostd_sqrt_f32_within_7_percent (E M : ℕ) (hE1 : 1 ≤ E) (hE2 : E ≤ 254) (hM : M < 2 ^ 23) :
    let r := approx32 (E * 2 ^ 23 + M)
    let x := normVal 23 127 E M
    let a := normVal 23 127 (r / 2 ^ 23) (r % 2 ^ 23)
    E * 2 ^ 23 + M + Gen.Sqrt.bias32 < 2 ^ 32 ∧ 1 ≤ r / 2 ^ 23 ∧ r / 2 ^ 23 ≤ 254 ∧
    (93/100) ^ 2 * x ≤ a ^ 2 ∧ a ^ 2 ≤ (107/100) ^ 2 * x ∧ (1 - 3 / 2 ^ 24) * x ≤ a ^ 2 ∧ a ^ 2 ≤ (9/8) * x := by
  intro r x a
  -- `approx32 = approxBits 32 bias32 shift32`: the instance checks only if `bias32 = 127·2^23`, `shift32 = 1`
  obtain ⟨h0, h1, h2, h3, h4⟩ := approxBits_bound 32 23 127 (by norm_num) (by norm_num) E M hE1 hE2 hM
  have hx : 0 ≤ x := le_of_lt (normVal_pos _ _ _ _)
  obtain ⟨s1, s2⟩ := seven_percent (a ^ 2) x (3 / 2 ^ 24) hx (by norm_num) h3 h4
  exact ⟨h0, h1, h2, s1, s2, h3, h4⟩

/-- the same for f64 (exponent field 1..2046, bias 1023, 52 mantissa bits).  With the f32 bias in the
    f64 function (the defect fixed in 5eee3f8) this theorem does not check. -/
theorem nostd_sqrt_f64_within_7_percent (E M : ℕ) (hE1 : 1 ≤ E) (hE2 : E ≤ 2046) (hM : M < 2 ^ 52) :
    let r := approx64 (E * 2 ^ 52 + M)
    let x := normVal 52 1023 E M
    let a := normVal 52 1023 (r / 2 ^ 52) (r % 2 ^ 52)
    E * 2 ^ 52 + M + Gen.Sqrt.bias64 < 2 ^ 64 ∧ 1 ≤ r / 2 ^ 52 ∧ r / 2 ^ 52 ≤ 2046 ∧
    (93/100) ^ 2 * x ≤ a ^ 2 ∧ a ^ 2 ≤ (107/100) ^ 2 * x ∧ (1 - 3 / 2 ^ 53) * x ≤ a ^ 2 ∧ a ^ 2 ≤ (9/8) * x := by
  intro r x a
  obtain ⟨h0, h1, h2, h3, h4⟩ := approxBits_bound 64 52 1023 (by norm_num) (by norm_num) E M hE1 hE2 hM
  have hx : 0 ≤ x := le_of_lt (normVal_pos _ _ _ _)
  obtain ⟨s1, s2⟩ := seven_percent (a ^ 2) x (3 / 2 ^ 53) hx (by norm_num) h3 h4
  exact ⟨h0, h1, h2, s1, s2, h3, h4⟩

/-- from bounds on the square to bounds on the root: `a = √(a²)` and `lo·√x = √(lo²·x)` -/
theorem sqrt_between {a x lo hi : ℝ} (ha : 0 ≤ a) (hlo : 0 ≤ lo) (hhi : 0 ≤ hi)
    (h1 : lo ^ 2 * x ≤ a ^ 2) (h2 : a ^ 2 ≤ hi ^ 2 * x) :
    lo * Real.sqrt x ≤ a ∧ a ≤ hi * Real.sqrt x := by
  rw [← Real.sqrt_sq ha, ← Real.sqrt_sq hlo, ← Real.sqrt_sq hhi, ← Real.sqrt_mul (sq_nonneg lo),
    ← Real.sqrt_mul (sq_nonneg hi)]
  exact ⟨Real.sqrt_le_sqrt h1, Real.sqrt_le_sqrt h2⟩

/-- the 7 % statement about the root itself, over `ℝ`: `|a − √x| ≤ 0.07·√x` follows from the bound on
    the squares for any `a ≥ 0`, `x ≥ 0` -/
theorem root_within_7_percent_of_squares (a x : ℝ) (ha : 0 ≤ a) (hx : 0 ≤ x)
    (h1 : (93/100) ^ 2 * x ≤ a ^ 2) (h2 : a ^ 2 ≤ (107/100) ^ 2 * x) :
    |a - Real.sqrt x| ≤ (7/100) * Real.sqrt x := by
  obtain ⟨l, r⟩ := sqrt_between ha (by norm_num) (by norm_num) h1 h2
  rw [abs_le]; constructor <;> linarith

/-- *"plus a negligible absolute term at zero"*: `sqrt(+0.0)` is the pattern `BIAS >> 1`, i.e.
    `1.5·2^−64 ≈ 8.1e−20` (f32) and `1.5·2^−512 ≈ 1.1e−154` (f64) -/
theorem nostd_sqrt_at_zero : approx32 0 = 0x1fc00000 ∧ approx64 0 = 0x1ff8000000000000 := by
  constructor <;> simp [approx32, approx64, approxBits, Gen.Sqrt.bias32, Gen.Sqrt.shift32, Gen.Sqrt.bias64, Gen.Sqrt.shift64, Nat.shiftRight_eq_div_pow]

/-! ## 6. Rounded arithmetic: the rigorous floating-point error bound

`Rounding.rndArith rnd` is the arithmetic in which every operation of `Model/Rms.lean` is the exact
one followed by `rnd`; `Rounding.nextSqR rnd` is `Chan.nextSquared` in that arithmetic and
`Rounding.feedR rnd c xs` the state after the inputs `xs`.  `N ≤ 2^24` is assumed in that
`window.len() as f32` is taken to be exact. -/

open Dasp.Rms.Rounding

/-- the bounds `B = (1+u)·M + η` on the computed squares and `u·M + η` on their distance from the true squares
    (`RndOK.le_of_le`) are non-negative -/
theorem square_bounds_nonneg {rnd : K → K} {u η M : K} (ok : RndOK rnd u η) (hM0 : 0 ≤ M) :
    0 ≤ (1 + u) * M + η ∧ 0 ≤ u * M + η := by
  have := ok.u0; have := ok.η0; constructor <;> positivity

/-- *"After any sequence of input frames"* (rounded arithmetic): after ANY `k` inputs whose squares
    are at most `M`, the running sum the code holds differs from the sum of the squares in its window
    by at most `E_k`, the window has length `N`, and every stored square is within `u·M + η` of the
    true square. -/
theorem rounded_running_sum_drift {n : Nat} (hn : 1 ≤ n) {rnd : K → K} {u η M : K} (ok : RndOK rnd u η)
    (hM0 : 0 ≤ M) (xs : List K) (hM : ∀ x ∈ xs, x * x ≤ M) :
    let B := (1 + u) * M + η
    let c := feedR rnd (@Chan.init K (rndArith rnd) n) xs
    |c.sum - c.window.sum| ≤ errBound u (stepC n u η B) xs.length ∧ c.window.length = n ∧
    List.Forall₂ (fun a b => |a - b| ≤ u * M + η) c.window (specWindow n xs) := by
  obtain ⟨hB, hδ⟩ := square_bounds_nonneg ok hM0
  have := RInv.feed hn ok hB hδ xs (fun x hx => ok.le_of_le (mul_self_nonneg x) (hM x hx))
  exact ⟨this.sum, this.len, this.close⟩

/-- *"equals … the mean of the squares of the most recent N frames … to within a rigorous
    floating-point error bound"*: after any `k` inputs since the last reset, the value `next_squared`
    returns for the next input is within
    `(u·M + η) + u·B + η + (1+u)·E_{k+1}/N` of the exact mean of the squares of the last `N` inputs,
    `B = (1+u)·M + η`, `E` the drift recurrence `E_{j+1} = (1+3u)·E_j + u(3N+4)B + 3η`. -/
theorem rounded_next_squared_error_bound {n : Nat} (hn : 1 ≤ n) {rnd : K → K} {u η M : K} (ok : RndOK rnd u η)
    (hM0 : 0 ≤ M) (xs : List K) (x : K) (hM : ∀ y ∈ xs ++ [x], y * y ≤ M) :
    let B := (1 + u) * M + η
    |(nextSqR rnd (feedR rnd (@Chan.init K (rndArith rnd) n) xs) x).2 - meanSq n (xs ++ [x])|
      ≤ (u * M + η) + u * B + η + (1 + u) * errBound u (stepC n u η B) (xs.length + 1) / n := by
  obtain ⟨hB, hδ⟩ := square_bounds_nonneg ok hM0
  have hinv := RInv.feed hn ok hB hδ xs (fun y hy => ok.le_of_le (mul_self_nonneg y) (hM y (by simp [hy])))
  obtain ⟨h1, h2⟩ := ok.le_of_le (mul_self_nonneg x) (hM x (by simp))
  exact out_close hn ok hB (errBound_nonneg ok.u0 (stepC_nonneg n ok.u0 ok.η0 hB) _) hδ hinv x h1 h2

/-- the same bound in closed form, linear in the number of frames since the last reset, for
    histories with `6·u·(k+1) ≤ 1` (k < 2.7·10^6 frames in f32, < 1.5·10^15 in f64):
    `|out − mean| ≤ (u·M + η) + u·B + η + (1+u)·2(k+1)(u(3N+4)B + 3η)/N` -/
theorem rounded_next_squared_error_bound_linear {n : Nat} (hn : 1 ≤ n) {rnd : K → K} {u η M : K}
    (ok : RndOK rnd u η) (hM0 : 0 ≤ M) (xs : List K) (x : K) (hM : ∀ y ∈ xs ++ [x], y * y ≤ M)
    (hk : 6 * u * ((xs.length + 1 : Nat) : K) ≤ 1) :
    let B := (1 + u) * M + η
    |(nextSqR rnd (feedR rnd (@Chan.init K (rndArith rnd) n) xs) x).2 - meanSq n (xs ++ [x])|
      ≤ (u * M + η) + u * B + η + (1 + u) * (2 * ((xs.length + 1 : Nat) : K) * stepC n u η B) / n := by
  have hC := stepC_nonneg n ok.u0 ok.η0 (square_bounds_nonneg ok hM0).1
  -- the bound is monotone in the drift term, and `errBound_linear` bounds that
  exact (rounded_next_squared_error_bound hn ok hM0 xs x hM).trans (add_le_add le_rfl
    (div_le_div_of_nonneg_right (mul_le_mul_of_nonneg_left (errBound_linear ok.u0 hC (xs.length + 1) hk)
      (add_nonneg zero_le_one ok.u0)) (Nat.cast_nonneg n)))

/-- *"and resets"*: a reset from any state whose window has its length `N` leads to the initial
    state also in rounded arithmetic, so the drift bound restarts from zero: the bounds above count
    the frames since the last reset -/
theorem rounded_reset_restarts {n : Nat} (rnd : K → K) (c : Chan K) (h : c.window.length = n) (xs : List K) :
    feedR rnd (@Chan.reset K (rndArith rnd) c) xs = feedR rnd (@Chan.init K (rndArith rnd) n) xs := by
  have : @Chan.reset K (rndArith rnd) c = @Chan.init K (rndArith rnd) n := by
    simp [Chan.reset, Chan.init, Chan.new, List.map_const', h]
  rw [this]

/-- the hypothesis is what IEEE rounding provides: the rounding function of the executable
    soft-float (`Machine/FP.round` returns exactly `rs F x` whenever it returns a finite value,
    `round_toRat_eq_rs`) satisfies `RndOK` with `u = 2^−prec`, `η = 2^(emin−1)` — binary32:
    `u = 2^−24`, `η = 2^−150`; binary64: `u = 2^−53`, `η = 2^−1075` -/
theorem softfloat_rounding_ok (F : Fmt2) (hp : 0 < F.prec) :
    RndOK (rs F) (pow2 (-(F.prec : Int))) (pow2 (F.emin - 1)) :=
  rs_rndOK F

/-- the value of a finite soft-float result IS `rs` of the exact result (no overflow), so the
    analysis above is about the numbers `Machine/FP.add/mul/div` produce -/
theorem softfloat_value_is_rs (F : Fmt2) (neg : Bool) (x v : ℚ) (h : (round F neg x).toRat? = some v) :
    v = rs F x := round_toRat_eq_rs F neg x v h

/-- binary32 instance of the error bound, window 4, squares ≤ 1, 3 frames of history:
    every hypothesis is satisfiable and the bound is a concrete small number -/
example : RndOK (rs f32) (pow2 (-24)) (pow2 (-150)) := softfloat_rounding_ok f32 (by decide)

example :
    let u : ℚ := pow2 (-(f32.prec : Int)); let η : ℚ := pow2 (f32.emin - 1); let B := (1 + u) * 1 + η
    |(nextSqR (rs f32) (feedR (rs f32) (@Chan.init ℚ (rndArith (rs f32)) 4) [1/2, -1/3]) (1/5)).2
        - meanSq 4 ([1/2, -1/3] ++ [1/5])|
      ≤ (u * 1 + η) + u * B + η + (1 + u) * errBound u (stepC 4 u η B) (([1/2, -1/3] : List ℚ).length + 1) / (4 : ℕ) :=
  rounded_next_squared_error_bound (n := 4) (by norm_num) (softfloat_rounding_ok f32 (by decide)) (M := 1)
    (by norm_num) [1/2, -1/3] (1/5)
    (by intro y hy; simp at hy; rcases hy with rfl | rfl | rfl <;> norm_num)

/-! ## Non-vacuity: every hypothesis instantiated on concrete non-trivial data -/

/-- a square root on `ℚ` that is exact on perfect squares -/
def sqrtQ (q : ℚ) : ℚ := (Nat.sqrt q.num.toNat : ℚ) / (Nat.sqrt q.den : ℚ)

/-- window of 2 frames, mono: the history `1, reset, 1, 7` — the window has turned over and been
    reset; the mean of the last two squares is (1 + 49)/2 = 25 -/
example : meanSq 2 ([1, 7] : List ℚ) = 25 := by
  norm_num [meanSq, specWindow, lastN]

example : hist 1 ([.next [1], .reset, .next [1]] : List (Op ℚ)) = [[1]] := by
  simp [hist, histStep, pushFrame]

example :
    (((Rms.init 1 2 : Rms ℚ).run sqrtQ [.next [1], .reset, .next [1]]).1.nextSquared [7]).2 = [25] := by
  rw [next_squared_is_mean (by norm_num)]
  norm_num [hist, histStep, pushFrame, meanSq, specWindow, lastN]

/-- two channels, window 3, four frames (the first one has left the window) -/
example :
    (((Rms.init 2 3 : Rms ℚ).run sqrtQ [.next [5, 1], .next [1, 2], .nextSquared [1, 2]]).1.nextSquared [1, 1]).2 = [1, 3] := by
  rw [next_squared_is_mean (by norm_num)]
  norm_num [hist, histStep, pushFrame, meanSq, specWindow, lastN, List.replicate]

/-- the well-formedness hypothesis of `reset_restores_initial_state` is satisfiable -/
example : ∀ op ∈ ([.next [5, 1], .reset, .current, .nextSquared [1, 2]] : List (Op ℚ)), op.WF 2 := by
  intro op h; simp at h; rcases h with rfl | rfl | rfl | rfl <;> simp [Op.WF]

/-- the bit-trick theorem at x = 4.0f32 (E = 129, M = 0): the result is exactly 2.0 (E' = 128, M' = 0) -/
example : approx32 (129 * 2 ^ 23 + 0) = 128 * 2 ^ 23 := by
  simp [approx32, approxBits, Gen.Sqrt.bias32, Gen.Sqrt.shift32, Nat.shiftRight_eq_div_pow]

/-- … and at x = 4.0f64 (E = 1025): exactly 2.0 (E' = 1024) — fails with the f32 bias -/
example : approx64 (1025 * 2 ^ 52 + 0) = 1024 * 2 ^ 52 := by
  simp [approx64, approxBits, Gen.Sqrt.bias64, Gen.Sqrt.shift64, Nat.shiftRight_eq_div_pow]

/-- the adaptor hypothesis `k ≤ src.length` on a concrete adaptor -/
example : (2 : Nat) ≤ (⟨[[1], [7], [3]], 1, Rms.init 1 2, 0⟩ : Adaptor ℚ).src.length := by decide

end Dasp.Props.C11
