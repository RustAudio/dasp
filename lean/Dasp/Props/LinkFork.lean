import Dasp.Lemmas.RingOps
import Dasp.Model.OverBounded
/-!
# Cross-layer link: the queue of Fork (C12) and Buffered (C14) is the `Bounded` of C06

Fork and Buffered model `ring_buffer::Bounded` as the ideal capacity-bounded FIFO queue
(`SrcQueue.push`, head/tail).  This module proves that the ideal `push` is the abstraction of the
`Bounded` transcription of `Model/Ring.lean` on every valid raw state (`holds_push`), and that the
copies of the two models that run on the raw state (`Model/OverBounded.lean`) produce, for every
schedule, the observations of the models over the ideal queue (`forkB_trace_sim`, `bufB_trace_sim`) —
so the theorems of C12 and C14 hold for every backing slice and `start` offset.
(`LinkRms`, `LinkSinc`, `LinkNodes` do the same for C11/C19, C18 and C16.)
-/
namespace Dasp.Props.LinkFork
open Dasp.Ring

variable {α : Type} [Inhabited α]

/-- **C12/C14 ↔ C06.** The ideal queue `push` used by the Fork and Buffered models (evicting the
    oldest exactly when full) is the abstraction of the real index arithmetic, on every valid
    `Bounded` state (any `start`, any `len ≤ capacity`); `pop`, `len` (`is_empty` through it) and `max_len` are
    `Holds.pop`, `Holds.length` and `Holds.maxLen_eq` of Lemmas/RingOps.lean -/
theorem holds_push {cap : Nat} {b : Bounded α} {q : List α} (h : Dasp.Props.C06.Holds cap b q) (x : α) :
    Dasp.Props.C06.Holds cap (b.push x).1 (Dasp.SrcQueue.push q cap x) := by
  rw [Dasp.SrcQueue.push, List.drop_one]; exact (h.push x).1

/-! non-vacuity: a valid `Bounded` state with `start ≠ 0`, to which `holds_push` applies through `Holds.of_inv`
    (the rotated `Fixed` state is the one `Props/LinkRms.lean` is about) -/
example : (⟨[30, 10, 20], 1, 2⟩ : Bounded Nat).Inv ∧ (⟨[30, 10, 20], 1, 2⟩ : Bounded Nat).abs = [10, 20] := by
  decide
example : (⟨[3, 1, 2], 1⟩ : Fixed Nat).Inv ∧ (⟨[3, 1, 2], 1⟩ : Fixed Nat).abs = [1, 2, 3] := by
  decide

section sim
open Dasp.OverBounded Dasp.SrcQueue Dasp.Props.C06

def ForkRel (s : ForkB α) (t : Dasp.Fork.St α) : Prop :=
  s.src = t.src ∧ Holds t.cap s.b t.q ∧ s.pending = t.pending

theorem forkB_pull_sim {s : ForkB α} {t : Dasp.Fork.St α} (h : ForkRel s t) :
    (ForkB.pull s).1 = (Dasp.Fork.pull t).1 ∧ ForkRel (ForkB.pull s).2 (Dasp.Fork.pull t).2 := by
  obtain ⟨hs, hb, hp⟩ := h
  unfold ForkB.pull Dasp.Fork.pull
  rw [hs]
  exact ⟨rfl, rfl, holds_push hb _, hp⟩

/-- **C12 over the real ring-buffer state.** One `next` of either branch on the concrete state
    returns the same frame as on the abstract state and keeps the two related, for every
    backing slice, `start` offset and queue content satisfying `from_raw_parts`' assertion -/
theorem forkB_next_sim {s : ForkB α} {t : Dasp.Fork.St α} (h : ForkRel s t) (me : Bool) :
    (ForkB.next s me).1 = (Dasp.Fork.next t me).1 ∧ ForkRel (ForkB.next s me).2 (Dasp.Fork.next t me).2 := by
  obtain ⟨src, q, cap, p⟩ := t
  obtain ⟨hs, hb, hp⟩ := h
  simp only [ForkB.next, Dasp.Fork.next, hp]
  split
  · rw [hb.pop_eq]
    cases q with
    | nil => exact forkB_pull_sim ⟨hs, hb, rfl⟩
    | cons x r => exact ⟨rfl, hs, hb.pop.1, rfl⟩
  · exact forkB_pull_sim ⟨hs, hb, hp⟩

theorem forkB_step_sim {s : ForkB α} {t : Dasp.Fork.St α} (h : ForkRel s t) (o : Dasp.Fork.Op) :
    (ForkB.step s o).1 = (Dasp.Fork.step t o).1 ∧ ForkRel (ForkB.step s o).2 (Dasp.Fork.step t o).2 := by
  have look : ∀ {s t} (h : ForkRel s t) (f : Option α),
      (⟨f, s.pendingFrames true, s.pendingFrames false, s.src.pos⟩ : Dasp.Fork.Obs α) = Dasp.Fork.look t f := by
    intro s t ⟨hs, hb, hp⟩ f
    simp only [Dasp.Fork.look, ForkB.pendingFrames, Dasp.Fork.pendingFrames, hs, hb.length, hp]
  cases o with
  | pull me =>
    obtain ⟨h1, h2⟩ := forkB_next_sim h me
    exact ⟨by simp only [ForkB.step, Dasp.Fork.step, look h2, h1], h2⟩
  | resplitRef | resplitRc | drop _ => exact ⟨look h none, h⟩

theorem forkB_trace_rel (ops : List Dasp.Fork.Op) {s : ForkB α} {t : Dasp.Fork.St α} (h : ForkRel s t) :
    ForkB.trace s ops = Dasp.Fork.trace t ops := by
  induction ops generalizing s t with
  | nil => rfl
  | cons o r ih =>
    obtain ⟨h1, h2⟩ := forkB_step_sim h o
    simp only [ForkB.trace, Dasp.Fork.trace, h1, ih h2]

/-- **every observation of every schedule** (frames, both pending counts, pull counter) is the same
    on the concrete ring-buffer state as on the abstract queue: C12's theorems transfer verbatim -/
theorem forkB_trace_sim (ops : List Dasp.Fork.Op) (s : ForkB α) (h : s.b.Inv) :
    ForkB.trace s ops = Dasp.Fork.trace s.abs ops :=
  forkB_trace_rel ops ⟨rfl, Holds.of_inv h, rfl⟩

def BufRel (s : BufB α) (t : Dasp.Buffered.St α) : Prop := s.src = t.src ∧ Holds t.cap s.b t.q

theorem bufB_pullPush_sim {s : BufB α} {t : Dasp.Buffered.St α} (h : BufRel s t) :
    BufRel (BufB.pullPush s) (Dasp.Buffered.pullPush t) := by
  unfold BufB.pullPush Dasp.Buffered.pullPush
  rw [h.1]
  exact ⟨rfl, holds_push h.2 _⟩

theorem bufB_fill_sim (n : Nat) {s : BufB α} {t : Dasp.Buffered.St α} (h : BufRel s t) :
    BufRel (BufB.fill n s) (Dasp.Buffered.fill n t) := by
  induction n generalizing s t with
  | zero => exact h
  | succ n ih => exact ih (bufB_pullPush_sim h)

theorem bufB_refill_sim {s : BufB α} {t : Dasp.Buffered.St α} (h : BufRel s t) :
    BufRel (BufB.refill s) (Dasp.Buffered.refill t) := by
  unfold BufB.refill Dasp.Buffered.refill
  rw [h.2.maxLen_eq]
  exact bufB_fill_sim _ h

theorem bufB_iterNext_sim {s : BufB α} {t : Dasp.Buffered.St α} (h : BufRel s t) :
    (BufB.iterNext s).1 = (Dasp.Buffered.iterNext t).1 ∧ BufRel (BufB.iterNext s).2 (Dasp.Buffered.iterNext t).2 := by
  obtain ⟨src, q, cap⟩ := t
  obtain ⟨hs, hb⟩ := h
  unfold BufB.iterNext Dasp.Buffered.iterNext
  rw [hb.pop_eq]
  cases q with
  | nil => exact ⟨rfl, hs, hb⟩
  | cons x r => exact ⟨rfl, hs, hb.pop.1⟩

/-- **C14 over the real ring-buffer state**: `Buffered::next` -/
theorem bufB_next_sim {s : BufB α} {t : Dasp.Buffered.St α} (h : BufRel s t) :
    (BufB.next s).1 = (Dasp.Buffered.next t).1 ∧ BufRel (BufB.next s).2 (Dasp.Buffered.next t).2 := by
  have hr := bufB_refill_sim h
  obtain ⟨src, q, cap⟩ := t
  obtain ⟨hs, hb⟩ := h
  unfold BufB.next Dasp.Buffered.next
  rw [hb.pop_eq]
  cases q with
  | cons x r => exact ⟨rfl, hs, hb.pop.1⟩
  | nil =>
    dsimp only
    generalize Dasp.Buffered.refill _ = t' at hr ⊢
    obtain ⟨src', q', cap'⟩ := t'
    obtain ⟨hs', hb'⟩ := hr
    rw [hb'.pop_eq]
    cases q' with
    | nil => exact ⟨congrArg Src.eq hs, hs', hb'⟩
    | cons x r => exact ⟨rfl, hs', hb'.pop.1⟩

/-- `is_exhausted` agrees: so C14's exhaustion and padding theorems transfer to every `start` offset -/
theorem bufB_isExhausted_sim {s : BufB α} {t : Dasp.Buffered.St α} (h : BufRel s t) :
    BufB.isExhausted s = Dasp.Buffered.isExhausted t := by
  unfold BufB.isExhausted Dasp.Buffered.isExhausted
  rw [h.1, h.2.length]

theorem bufB_iterN_sim (k : Nat) {s : BufB α} {t : Dasp.Buffered.St α} (h : BufRel s t) :
    (BufB.iterN k s).1 = (Dasp.Buffered.iterN k t).1 ∧ BufRel (BufB.iterN k s).2 (Dasp.Buffered.iterN k t).2 := by
  induction k generalizing s t with
  | zero => exact ⟨rfl, h⟩
  | succ k ih =>
    obtain ⟨h1, h2⟩ := bufB_iterNext_sim h
    obtain ⟨i1, i2⟩ := ih h2
    exact ⟨by simp only [BufB.iterN, Dasp.Buffered.iterN, h1, i1], i2⟩

theorem bufB_untilExhausted_sim (fuel : Nat) {s : BufB α} {t : Dasp.Buffered.St α} (h : BufRel s t) :
    (BufB.untilExhausted fuel s).1 = (Dasp.Buffered.untilExhausted fuel t).1 ∧
    BufRel (BufB.untilExhausted fuel s).2 (Dasp.Buffered.untilExhausted fuel t).2 := by
  induction fuel generalizing s t with
  | zero => exact ⟨rfl, h⟩
  | succ f ih =>
    simp only [BufB.untilExhausted, Dasp.Buffered.untilExhausted, bufB_isExhausted_sim h]
    split
    · exact ⟨rfl, h⟩
    · obtain ⟨h1, h2⟩ := bufB_next_sim h
      obtain ⟨i1, i2⟩ := ih h2
      exact ⟨by rw [h1, i1], i2⟩

theorem bufB_beginFrames_sim {s : BufB α} {t : Dasp.Buffered.St α} (h : BufRel s t) :
    BufRel (BufB.beginFrames s) (Dasp.Buffered.beginFrames t) := by
  unfold BufB.beginFrames Dasp.Buffered.beginFrames
  rw [h.2.length]
  split
  · exact bufB_refill_sim h
  · exact h

theorem bufB_exec_sim {s : BufB α} {t : Dasp.Buffered.St α} (h : BufRel s t) (o : Dasp.Buffered.Op) :
    (BufB.exec s o).1 = (Dasp.Buffered.exec t o).1 ∧ BufRel (BufB.exec s o).2 (Dasp.Buffered.exec t o).2 := by
  cases o with
  | next => exact ⟨congrArg (fun x => [some x]) (bufB_next_sim h).1, (bufB_next_sim h).2⟩
  | frames k => exact bufB_iterN_sim k (bufB_beginFrames_sim h)
  | drain =>
    have hb := bufB_beginFrames_sim h
    simp only [BufB.exec, Dasp.Buffered.exec, hb.2.length]
    exact bufB_iterN_sim _ hb
  | untilExhausted =>
    have hf : BufB.ueFuel s = Dasp.Buffered.ueFuel t := by
      unfold BufB.ueFuel Dasp.Buffered.ueFuel; rw [h.2.length, h.1, h.2.maxLen_eq]
    simp only [BufB.exec, Dasp.Buffered.exec, hf]
    exact ⟨congrArg _ (bufB_untilExhausted_sim _ h).1, (bufB_untilExhausted_sim _ h).2⟩
  | look => exact ⟨rfl, h⟩

theorem bufB_trace_rel (ops : List Dasp.Buffered.Op) {s : BufB α} {t : Dasp.Buffered.St α} (h : BufRel s t) :
    BufB.trace s ops = Dasp.Buffered.trace t ops := by
  induction ops generalizing s t with
  | nil => rfl
  | cons o r ih =>
    obtain ⟨h1, h2⟩ := bufB_exec_sim h o
    have hstep : (BufB.step s o).1 = (Dasp.Buffered.step t o).1 := by
      simp only [BufB.step, Dasp.Buffered.step, Dasp.Buffered.look, h1, h2.1, bufB_isExhausted_sim h2]
    simp only [BufB.trace, Dasp.Buffered.trace, hstep]
    rw [ih (s := (BufB.step s o).2) (t := (Dasp.Buffered.step t o).2) h2]

/-- **C14 over the real ring-buffer state, every observation of every operation sequence**: outputs,
    pull counter and `is_exhausted` are those of the abstract model — for any backing slice, any
    pre-filled content and any internal `start` offset (C14's *"any internal start offset"*: the ideal
    queue of `Props/C14.lean` has none) -/
theorem bufB_trace_sim (ops : List Dasp.Buffered.Op) (s : BufB α) (h : s.b.Inv) :
    BufB.trace s ops = Dasp.Buffered.trace s.abs ops :=
  bufB_trace_rel ops ⟨rfl, Holds.of_inv h⟩

end sim

/-- non-vacuity: a partly filled ring buffer state with `start ≠ 0` under a fork -/
example : (⟨⟨[1, 2, 3], 7, 0⟩, ⟨[30, 10, 20], 1, 2⟩, true⟩ : Dasp.OverBounded.ForkB Nat).b.Inv ∧
    (Dasp.OverBounded.ForkB.next ⟨⟨[1, 2, 3], 7, 0⟩, ⟨[30, 10, 20], 1, 2⟩, true⟩ true).1 = 10 := by
  decide

end Dasp.Props.LinkFork
