import Dasp.Lemmas.RingOps
/-!
# C06 — Bounded and Fixed ring buffers behave exactly as FIFO queues and delay lines

Property text (properties.jsonl, C06): *Starting from any valid state over any capacity, every
sequence of operations on a bounded ring buffer (push, pop, drain, indexed read/write,
iteration, slice views) returns exactly what an ideal capacity-bounded queue returns: push
appends and, only when full, evicts and returns the oldest element, pop removes the oldest,
and index i, iteration and the two slices concatenated present the live elements oldest-first
with len, is_empty, is_full and max_len in agreement.  A fixed ring buffer of length N >= 1
keeps length N under any history of push, set_first, indexed access and iteration: each push
returns the element at index 0 and makes the pushed element the newest at index N-1, so a push
returns exactly the value pushed N pushes earlier (or the initial content), indexing wraps
modulo N, and plain, looping and mutable iteration and the slice pair all agree on
oldest-first order.  No operation of either buffer reads or writes outside the backing slice
or exposes a slot that holds no live element.*

`Dasp.Ring.Bounded` / `Dasp.Ring.Fixed` (Model/Ring.lean) transcribe
`/repo/dasp_ring_buffer/src/lib.rs`; the same definitions are executed by `driver_c06` against
the compiled crate on every run.  `Inv` is exactly what `from_raw_parts` asserts, so "for every
`b` with `b.Inv`" is "from any valid state"; histories of any length follow by induction over
the operation list (`run_refines`, `Fixed.run_refines`).  `abs` = the live elements oldest
first; `Holds cap b q` (Lemmas/RingOps.lean) bundles `b.Inv`, `b.maxLen = cap` and `b.abs = q`,
`HoldsF n f (l, p)` the same for `Fixed`.
This file holds the two specifications — the ideal queue (`qStep`, `qRun`) and the ideal delay line
(`dStep`, `dRun`, stated with `nextSlot` of Lemmas/Ring.lean and `rotl` of Lemmas/RingOps.lean;
`Fixed.pushAll`, the pushes with what they return, is there too) — the property theorems and the
non-vacuity examples; what each operation does to `abs` is proved in Lemmas/RingOps.lean
(`Holds.<op>`, `HoldsF.<op>`), the window arithmetic in Lemmas/Ring.lean.

Indices are `Nat`, so the statements hold for *every* index: `Bounded.get i = none` for all
`i ≥ len` however large (`no_dead_slot_exposed`; the code tests `index >= len` before any
addition), and `Fixed.get i = abs[i % N]` for all `i` (`Fixed.get_abs`).  Since fix commit 5f913b5
`Fixed::get/get_mut` reduce the index modulo `len` *before* adding `first`, so the machine sum is
`< 2 * len` and cannot overflow `usize` (`Fixed.wrapped_sum_small`); the expression used before
that commit, evaluated in wrapping 64-bit arithmetic, selects the wrong slot
(`Fixed.wrappedOld64_wrong_slot`).
-/
set_option linter.unusedSectionVars false

namespace Dasp.Props.C06
open Dasp.Ring

variable {α : Type} [Inhabited α]

/-! ## The ideal capacity-bounded FIFO queue (the specification, one line per operation) -/

/-- push appends and, only when full, evicts and returns the oldest element -/
def qPush (cap : Nat) (q : List α) (x : α) : List α × Option α :=
  if q.length = cap then (q.tail ++ [x], q.head?) else (q ++ [x], none)

/-- forget what is representation and not content: the slice pair is read concatenated,
    raw parts only through the length -/
def norm : Obs α → Obs α
  | .pair a b => .list (a ++ b)
  | .raw _ l => .nat l
  | o => o

def qStep (cap : Nat) (q : List α) : BOp α → List α × Obs α
  | .push x => ((qPush cap q x).1, .opt (qPush cap q x).2)
  | .pop => (q.tail, .opt q.head?)
  | .get i => (q, .opt q[i]?)
  | .getMut i x => (q.set i x, .opt q[i]?)
  | .index i => (q, match q[i]? with | some v => .opt (some v) | none => .panic)
  | .indexMut i x => (q.set i x, match q[i]? with | some v => .opt (some v) | none => .panic)
  | .len => (q, .nat q.length)
  | .isEmpty => (q, .bool (q.length == 0))
  | .isFull => (q, .bool (q.length == cap))
  | .maxLen => (q, .nat cap)
  | .iter => (q, .list q)
  | .slices => (q, .list q)
  | .iterMut xs => (xs.take q.length ++ q.drop xs.length, .list q)
  | .slicesMut xs => (xs.take q.length ++ q.drop xs.length, .list q)
  | .drain k => (q.drop k, .list (q.take k))
  | .extend xs => (xs.foldl (fun q x => (qPush cap q x).1) q, .unit)
  | .reparts => (q, .nat q.length)

def qRun (cap : Nat) (q : List α) (ops : List (BOp α)) : List α × List (Obs α) :=
  ops.foldl (fun acc op => ((qStep cap acc.1 op).1, acc.2 ++ [(qStep cap acc.1 op).2])) (q, [])

theorem qPush_eq (cap : Nat) (q : List α) (x : α) :
    qPush cap q x = (if q.length = cap then q.tail ++ [x] else q ++ [x],
      if q.length = cap then q.head? else none) := by
  unfold qPush; split <;> rfl

theorem abs_le_cap (b : Bounded α) (h : b.Inv) : b.abs.length ≤ b.maxLen := by
  rw [abs_length]; exact h.2

/-- **Counter-witness.** With the index expression used before fix commit
    8b21f98 (`index % max_len`, ignoring `start`) the refinement is false: in the valid state
    data=[4,2,3], start=1, len=3 (what pushes 1,2,3,4 into capacity 3 produce) the queue is
    [2,3,4] but the old `get(0)` returns 4. -/
theorem getOld_breaks_refinement :
    ∃ b : Bounded Nat, b.Inv ∧ b.abs = [2, 3, 4] ∧ b.getOld 0 = some 4 ∧ b.getOld 0 ≠ b.abs[0]? :=
  ⟨⟨[4, 2, 3], 1, 3⟩, by decide, by decide, by decide, by decide⟩

/-- the old expression also exposed a slot holding no live element: start=1, len=1 -/
theorem getOld_exposes_dead_slot :
    ∃ b : Bounded Nat, b.Inv ∧ b.abs = [2] ∧ b.getOld 0 = some 99 :=
  ⟨⟨[99, 2, 98], 1, 1⟩, by decide, by decide, by decide⟩

/-- *"push appends and, only when full, evicts and returns the oldest element"* -/
theorem push_refines {cap : Nat} {b : Bounded α} {q : List α} (h : Holds cap b q) (x : α) :
    Holds cap (b.push x).1 (qPush cap q x).1 ∧ (b.push x).2 = (qPush cap q x).2 := by
  rw [qPush_eq]; exact h.push x

/-- every sum the `Bounded` code forms in `usize` before reducing it modulo the capacity —
    `start + index` for a live index (`get`, `get_mut`, `Index`), `start + len` (the non-evicting `push`) and
    `start + 1` (`pop`, the evicting `push`) — is below `2 * capacity`, hence cannot overflow `usize` for
    any slice of non-zero-sized elements (a slice has at most `isize::MAX` bytes: `2 * capacity ≤ usize::MAX`) -/
theorem bounded_sums_small (b : Bounded α) (h : b.Inv) (i : Nat) (hi : i < b.len) :
    b.start + i < 2 * b.maxLen ∧ b.start + b.len < 2 * b.maxLen ∧ b.start + 1 < 2 * b.maxLen := by
  unfold Bounded.Inv at h; omega

/-- *"drain"* advanced with `Iterator::nth` (what `skip` / `step_by` call): `rb.drain().nth(k)` —
    `k+1` steps of the draining iterator, of which the client sees the last — hands out the element at
    index `k` of the ideal queue (`None` if there is none) and removes exactly the elements up to and
    including it -/
theorem drain_nth_refines (k : Nat) (b : Bounded α) (h : b.Inv) :
    (Bounded.drainTake (k + 1) b).2[k]? = b.abs[k]? ∧ (Bounded.drainTake (k + 1) b).1.abs = b.abs.drop (k + 1) := by
  obtain ⟨h1, h2⟩ := (Holds.of_inv h).drainTake (k + 1)
  refine ⟨?_, h1.abs_eq⟩
  rw [h2, List.getElem?_take, if_pos (Nat.lt_succ_self k)]

/-- `from_raw_parts` succeeds exactly on the raw parts of a valid state
    (the assertion at lib.rs:786-787 is exactly `Inv`) -/
theorem fromRawParts_iff (s l : Nat) (d : List α) :
    (∃ b, Bounded.fromRawParts s l d = some b) ↔ (⟨d, s, l⟩ : Bounded α).Inv := by
  rw [fromRawParts_eq]
  split <;> simp [*]

/-- every buffer a safe constructor returns is in a valid state, holding what the
    constructor's documentation says (`from_full`: all of `data`; `From`: nothing) -/
theorem constructors_valid (d : List α) (s l : Nat) (b : Bounded α) :
    (Bounded.fromRawParts s l d = some b → b.Inv ∧ b = ⟨d, s, l⟩) ∧
    (Bounded.fromFull d = some b → b.Inv ∧ b.abs = d) ∧
    (Bounded.fromEmpty d = some b → b.Inv ∧ b.abs = []) := by
  have raw : ∀ s l, Bounded.fromRawParts s l d = some b → b.Inv ∧ b = ⟨d, s, l⟩ := by
    intro s l hb
    rw [fromRawParts_eq] at hb
    split at hb <;> cases hb
    exact ⟨‹_›, rfl⟩
  refine ⟨raw s l, fun hb => ?_, fun hb => ?_⟩
  · obtain ⟨hi, rfl⟩ := raw 0 d.length hb
    refine ⟨hi, ?_⟩
    rw [Bounded.abs, window_full _ (Nat.zero_le _), List.drop_zero, List.take_zero, List.append_nil]
  · obtain ⟨hi, rfl⟩ := raw 0 0 hb
    exact ⟨hi, rfl⟩

/-- **C06, Bounded, one step from every valid state.** Every public operation keeps the state
    valid, keeps the capacity, and returns exactly what the ideal capacity-bounded queue returns
    while transforming the live elements exactly as the ideal queue is transformed. -/
theorem step_refines {cap : Nat} {b : Bounded α} {q : List α} (h : Holds cap b q) (op : BOp α) :
    Holds cap (b.step op).1 (qStep cap q op).1 ∧ norm (b.step op).2 = (qStep cap q op).2 := by
  obtain ⟨hi, rfl, rfl⟩ := h
  have h := Holds.of_inv hi
  cases op with
  | push x => exact ⟨(push_refines h x).1, congrArg Obs.opt (push_refines h x).2⟩
  | pop => exact ⟨h.pop.1, congrArg Obs.opt h.pop.2⟩
  | get i => exact ⟨h, congrArg Obs.opt (get_abs b i)⟩
  | getMut i x => exact ⟨(h.getMutSet i x).1, congrArg Obs.opt (h.getMutSet i x).2⟩
  | index i =>
    refine ⟨h, ?_⟩
    simp only [Bounded.step, qStep, get_abs]
    cases b.abs[i]? <;> rfl
  | indexMut i x =>
    -- `IndexMut` is `get_mut(i).expect(…)`: the state changes only where `get_mut` finds an element
    obtain ⟨h1, h2⟩ := h.getMutSet i x
    simp only [Bounded.step, qStep]
    rw [show b.getMutSet i x = ((b.getMutSet i x).1, b.abs[i]?) from Prod.ext rfl h2]
    cases hq : b.abs[i]? with
    | some v => exact ⟨h1, rfl⟩
    | none =>
      rw [List.set_eq_of_length_le (List.getElem?_eq_none_iff.mp hq)]
      exact ⟨h, rfl⟩
  | len => exact ⟨h, congrArg Obs.nat (abs_length b).symm⟩
  | isEmpty => exact ⟨h, congrArg Obs.bool (len_agrees b).2.1⟩
  | isFull => exact ⟨h, congrArg Obs.bool (len_agrees b).2.2⟩
  | maxLen => exact ⟨h, rfl⟩
  | iter => exact ⟨h, congrArg Obs.list (iter_abs b hi)⟩
  | slices => exact ⟨h, congrArg Obs.list (slices_abs b hi)⟩
  | iterMut xs => exact ⟨h.mutWrite xs, congrArg Obs.list (iter_abs b hi)⟩
  | slicesMut xs => exact ⟨h.mutWrite xs, congrArg Obs.list (slices_abs b hi)⟩
  | drain k => exact ⟨(h.drainTake k).1, congrArg Obs.list (h.drainTake k).2⟩
  | extend xs =>
    refine ⟨?_, rfl⟩
    simp only [qStep, qPush_eq]
    exact h.extend xs
  | reparts =>
    simp only [Bounded.step, reparts_id b hi]
    exact ⟨h, congrArg Obs.nat (abs_length b).symm⟩

/-- **C06, Bounded, every history.** *"Starting from any valid state over any capacity, every
    sequence of operations … returns exactly what an ideal capacity-bounded queue returns."*
    By induction over the operation list (`foldl_sim`): the final state is valid, has the same
    capacity, holds the ideal queue's content, and every observation along the way is the ideal one. -/
theorem run_refines (ops : List (BOp α)) (b : Bounded α) (h : b.Inv) :
    (b.run ops).1.Inv ∧ (b.run ops).1.maxLen = b.maxLen ∧
    (b.run ops).1.abs = (qRun b.maxLen b.abs ops).1 ∧
    (b.run ops).2.map norm = (qRun b.maxLen b.abs ops).2 := by
  have := foldl_sim (cs := Bounded.step) (as := qStep b.maxLen) (R := Holds b.maxLen) (φ := norm)
    (fun _ _ op h => step_refines h op) ops b b.abs [] (Holds.of_inv h)
  exact ⟨this.1.inv, this.1.maxLen_eq, this.1.abs_eq, this.2⟩

/-- *"No operation … reads or writes outside the backing slice"*: in every valid state every
    slot index an operation dereferences without a bounds check (`get_unchecked[_mut]` in push,
    pop, get, get_mut, and through them Index, IndexMut, drain, extend) is inside the slice -/
theorem accesses_in_bounds (b : Bounded α) (h : b.Inv) (op : BOp α) :
    ∀ i ∈ b.stepAcc op, i < b.data.length := by
  cases op with
  | push x => exact pushAcc_lt b h
  | pop => exact popAcc_lt b h
  | get j | getMut j _ | index j | indexMut j _ => exact getAcc_lt b h j
  | drain k => exact drainAcc_lt (Holds.of_inv h) k
  | extend xs => exact extendAcc_lt (Holds.of_inv h) xs
  | _ => intro i hi; cases hi

/-- …and every range Rust checks while building the slices (`split_at(start)`, `&end[..end_len]`,
    `&start[..len]`) is inside its slice, so `slices`/`slices_mut`/`iter`/`iter_mut` never panic -/
theorem slice_checks_pass (b : Bounded α) (h : b.Inv) (op : BOp α) :
    ∀ p ∈ b.stepChecks op, p.1 ≤ p.2 := by
  have hs : b.start < b.data.length := h.1
  have hl : b.len ≤ b.data.length := h.2
  have : ∀ p ∈ b.sliceChecks, p.1 ≤ p.2 := by
    intro p hp
    unfold Bounded.sliceChecks at hp
    rcases List.mem_cons.mp hp with rfl | hp
    · exact Nat.le_of_lt hs
    · split at hp
      · rw [List.mem_singleton.mp hp]; show b.len - _ ≤ b.start; omega
      · rcases List.mem_cons.mp hp with rfl | hp
        · show b.len ≤ _; omega
        · rw [List.mem_singleton.mp hp]; exact Nat.zero_le _
  cases op <;> first | exact this | (intro p hp; cases hp)

/-- the mutable pair exposes the same elements as `slices` -/
theorem mutPos_read (b : Bounded α) (h : b.Inv) :
    (b.mutPos.1 ++ b.mutPos.2).map (fun p => b.data[p]!) = b.abs := by
  rw [mutPos_slots b h, List.map_map, ← List.range_eq_range']; rfl

/-- the `&mut` references handed out by `slices_mut`/`iter_mut` point into the backing slice, at
    slots of live elements only -/
theorem mutPos_in_bounds (b : Bounded α) (h : b.Inv) :
    ∀ p ∈ b.mutPos.1 ++ b.mutPos.2, p < b.data.length := by
  rw [mutPos_slots b h]
  intro p hp
  obtain ⟨i, _, rfl⟩ := List.mem_map.mp hp
  exact slot_lt h.1

theorem run_accesses_in_bounds (ops : List (BOp α)) (op : BOp α) (b : Bounded α) (h : b.Inv) :
    (∀ i ∈ (b.run ops).1.stepAcc op, i < (b.run ops).1.data.length) ∧
    (∀ p ∈ (b.run ops).1.stepChecks op, p.1 ≤ p.2) :=
  ⟨accesses_in_bounds _ (run_refines ops b h).1 op, slice_checks_pass _ (run_refines ops b h).1 op⟩

/-- *"…or exposes a slot that holds no live element"*: whatever an operation returns comes from
    the ideal queue's content alone (`step_refines`), and reads never reach a dead slot:
    `get i` beyond `len` is `none`, `Index` panics -/
theorem no_dead_slot_exposed (b : Bounded α) (i : Nat) (hi : b.len ≤ i) :
    b.get i = none ∧ (b.step (.index i)).2 = .panic ∧ (b.step (.indexMut i default)).2 = .panic ∧
    (b.getMutSet i default).1 = b := by
  have hg : b.get i = none := by simp [Bounded.get, hi]
  simp [Bounded.step, hg, Bounded.getMutSet, hi]

/-! ## Fixed: the ideal N-slot delay line (`rotl l k = l.drop k ++ l.take k`) -/

/-- one operation on the ideal delay line: `l` = its `n` elements oldest first; `first` is carried
    only because `set_first` takes an absolute slot index (taken modulo `n`) and `into_raw_parts`
    shows it -/
def dStep (n : Nat) (l : List α) (first : Nat) : FOp α → (List α × Nat) × Obs α
  | .push x => ((l.tail ++ [x], nextSlot n first), .opt l.head?)
  | .get i => ((l, first), .opt l[i % n]?)
  | .getMut i x => ((l.set (i % n) x, first), .opt l[i % n]?)
  | .setFirst j => ((rotl l ((j % n + n - first) % n), j % n), .unit)
  | .len => ((l, first), .nat n)
  | .iter => ((l, first), .list l)
  | .iterLoop m => ((l, first), .list ((List.range m).map fun k => l[k % n]!))
  | .iterMut xs => ((xs.take n ++ l.drop xs.length, first), .list l)
  | .slices => ((l, first), .list l)
  | .slicesMut xs => ((xs.take n ++ l.drop xs.length, first), .list l)
  | .extend xs => (xs.foldl (fun s x => (s.1.tail ++ [x], nextSlot n s.2)) (l, first), .unit)
  | .reparts => ((l, first), .nat first)

def dRun (n : Nat) (l : List α) (first : Nat) (ops : List (FOp α)) : (List α × Nat) × List (Obs α) :=
  ops.foldl (fun acc op => ((dStep n acc.1.1 acc.1.2 op).1, acc.2 ++ [(dStep n acc.1.1 acc.1.2 op).2])) ((l, first), [])

namespace Fixed

/-- the sum the code forms in `usize` for ANY index is below `2 * len`: no overflow for any slice
    (a slice has at most `isize::MAX` bytes, so `2 * len ≤ usize::MAX`) -/
theorem wrapped_sum_small (f : Fixed α) (h : f.Inv) (i : Nat) : f.first + i % f.len < 2 * f.len := by
  have := Nat.mod_lt i (show 0 < f.len by unfold Fixed.Inv at h; omega)
  unfold Fixed.Inv at h; omega

/-- **Historical counter-witness (code before fix commit 5f913b5).** `(first + index) % len` evaluated
    in wrapping 64-bit arithmetic: in the valid state first = 1, N = 3 the index 2^64 − 1 selects
    backing slot 0, while element `index mod N` (= element 0 of the oldest-first order) lives in slot 1,
    which is what the current expression selects. -/
theorem wrappedOld64_wrong_slot :
    ∃ f : Fixed Nat, f.Inv ∧ f.wrappedOld64 (2 ^ 64 - 1) = 0 ∧ f.wrapped (2 ^ 64 - 1) = 1 ∧
      f.abs[(2 ^ 64 - 1) % f.len]? = some f.data[1]! ∧ f.data[f.wrappedOld64 (2 ^ 64 - 1)]! ≠ f.data[1]! :=
  ⟨⟨[11, 12, 13], 1⟩, by decide, by decide, by decide, by decide, by decide⟩

/-- *"each push returns the element at index 0"*, literally: what `push` returns is what `get(0)`
    (= `rb[0]`) returned just before -/
theorem push_returns_index0 (f : Fixed α) (x : α) (h : f.Inv) : (f.push x).2 = f.get 0 := by
  unfold Fixed.Inv Fixed.len at h
  simp [Fixed.push, Fixed.get, Fixed.wrapped, Fixed.len, Nat.mod_eq_of_lt h]

/-- *"…and makes the pushed element the newest at index N-1"*, literally: `get(N-1)` after the push -/
theorem push_index_last (f : Fixed α) (x : α) (h : f.Inv) : (f.push x).1.get (f.len - 1) = x := by
  have h1 := get_abs (f.push x).1 (push_inv f x h) (f.len - 1)
  have h3 := len_pos f h
  rw [push_len, Nat.mod_eq_of_lt (by omega), push_newest f x h] at h1
  exact Option.some.inj h1

/-- `from_raw_parts` accepts exactly the valid states; in particular it rejects empty storage -/
theorem fromRawParts_iff (s : Nat) (d : List α) :
    (∃ f, Fixed.fromRawParts s d = some f) ↔ (⟨d, s⟩ : Fixed α).Inv ∧ 1 ≤ d.length := by
  unfold Fixed.fromRawParts Fixed.Inv Fixed.len
  by_cases h1 : s < d.length <;> simp [h1]
  omega

/-- **C06, Fixed, one step from every valid state**: validity and the length `N` are kept, and the
    result and the new oldest-first order are those of the ideal delay line -/
theorem step_refines {n p : Nat} {f : Fixed α} {l : List α} (h : HoldsF n f (l, p)) (op : FOp α) :
    HoldsF n (f.step op).1 (dStep n l p op).1 ∧
    norm (f.step op).2 = (dStep n l p op).2 := by
  obtain ⟨hi, rfl, ⟨⟩⟩ := h
  have h := HoldsF.of_inv hi
  cases op with
  | push x => exact ⟨(h.push x).1, congrArg Obs.opt (h.push x).2⟩
  | get i => exact ⟨h, congrArg Obs.opt (get_abs f hi i)⟩
  | getMut i x => exact ⟨(h.getMutSet i x).1, congrArg Obs.opt (h.getMutSet i x).2⟩
  | setFirst j => exact ⟨h.setFirst j, rfl⟩
  | len => exact ⟨h, rfl⟩
  | iter => exact ⟨h, congrArg Obs.list (iter_abs f hi)⟩
  | iterLoop m => exact ⟨h, congrArg Obs.list (iterLoop_abs f hi m)⟩
  | iterMut xs => exact ⟨h.mutWrite xs, congrArg Obs.list (iterChain_abs f hi)⟩
  | slices => exact ⟨h, congrArg Obs.list (slices_abs f hi)⟩
  | slicesMut xs => exact ⟨h.mutWrite xs, congrArg Obs.list (slices_abs f hi)⟩
  | extend xs => exact ⟨h.extend xs, rfl⟩
  | reparts =>
    rw [show f.step .reparts = (f, .nat f.first) by simp only [Fixed.step, reparts_id f hi]]
    exact ⟨h, rfl⟩

/-- **C06, Fixed, every history.** *"A fixed ring buffer of length N >= 1 keeps length N under any
    history of push, set_first, indexed access and iteration"* and every observation along any
    history is the ideal delay line's. -/
theorem run_refines (ops : List (FOp α)) (f : Fixed α) (h : f.Inv) :
    (f.run ops).1.Inv ∧ (f.run ops).1.len = f.len ∧
    ((f.run ops).1.abs, (f.run ops).1.first) = (dRun f.len f.abs f.first ops).1 ∧
    (f.run ops).2.map norm = (dRun f.len f.abs f.first ops).2 := by
  have := foldl_sim (cs := Fixed.step) (as := fun a => dStep f.len a.1 a.2) (φ := norm)
    (R := HoldsF f.len) (fun _ _ op h => step_refines h op) ops f (f.abs, f.first) [] (HoldsF.of_inv h)
  exact ⟨this.1.inv, this.1.len_eq, this.1.abs_eq, this.2⟩

/-- *"so a push returns exactly the value pushed N pushes earlier (or the initial content)"*, for
    an arbitrary push number `k` (0-based) from an arbitrary valid state: the `k`-th push returns
    initial element `k` while `k < N`, afterwards the value pushed `N` pushes earlier -/
theorem kth_push_returns (xs : List α) (f : Fixed α) (h : f.Inv) (k : Nat) (hk : k < xs.length) :
    (pushAll f xs).2[k]? = if k < f.len then f.abs[k]? else xs[k - f.len]? := by
  rw [(pushAll_spec xs f h).1, List.getElem?_take, List.getElem?_append, abs_length]
  simp [hk]

/-- all slot indices `Fixed` dereferences (unchecked in `push`, checked in `get`/`get_mut`) are
    inside the slice, and `split_at(first)` is in range -/
theorem accesses_in_bounds (f : Fixed α) (h : f.Inv) (op : FOp α) :
    (∀ i ∈ f.stepAcc op, i < f.data.length) ∧ (∀ p ∈ f.stepChecks op, p.1 ≤ p.2) := by
  constructor
  · cases op with
    | push x => intro i hi; rw [List.mem_singleton.mp hi]; exact h
    | get j | getMut j _ => intro i hi; rw [List.mem_singleton.mp hi]; exact Nat.mod_lt _ (len_pos f h)
    | extend xs => exact extendAcc_lt xs f h
    | _ => intro i hi; cases hi
  · have : ∀ p ∈ [(f.first, f.len)], p.1 ≤ p.2 := fun p hp => List.mem_singleton.mp hp ▸ Nat.le_of_lt h
    cases op <;> first | exact this | (intro p hp; cases hp)

end Fixed

/-! ## Non-vacuity: every hypothesis is satisfiable on a concrete, wrapped, non-trivial state -/

/-- a valid Bounded state whose live window wraps (start = 2 of 3, two live elements) -/
example : (⟨[20, 99, 10], 2, 2⟩ : Bounded Nat).Inv ∧ (⟨[20, 99, 10], 2, 2⟩ : Bounded Nat).abs = [10, 20] := by
  decide

/-- a history through push, pop, get, get_mut, Index, slices, iter, is_full, drain and len from that
    wrapped state, computed by the model;
    `run_refines` applies to it (its hypothesis `Inv` holds by the example above) -/
example :
    ((⟨[20, 99, 10], 2, 2⟩ : Bounded Nat).run
      [.slices, .push 30, .push 40, .get 0, .pop, .getMut 1 7, .slices, .iter, .isFull, .drain 1, .len, .index 5]).2
    = [.pair [10] [20], .opt none, .opt (some 10), .opt (some 20), .opt (some 20), .opt (some 40), .pair [30, 7] [],
       .list [30, 7], .bool false, .list [30], .nat 1, .panic] := by
  decide

example :
    (qRun 3 [10, 20]
      [.slices, .push 30, .push 40, .get 0, .pop, .getMut 1 7, .slices, .iter, .isFull, .drain 1, .len, .index (5 : Nat)]).2
    = [.list [10, 20], .opt none, .opt (some 10), .opt (some 20), .opt (some 20), .opt (some 40), .list [30, 7],
       .list [30, 7], .bool false, .list [30], .nat 1, (.panic : Obs Nat)] := by
  decide

/-- a valid Fixed state with first ≠ 0; more than N pushes: each returns what entered N pushes earlier -/
example : (⟨[3, 1, 2], 1⟩ : Fixed Nat).Inv ∧ (⟨[3, 1, 2], 1⟩ : Fixed Nat).abs = [1, 2, 3] ∧
    (Fixed.pushAll (⟨[3, 1, 2], 1⟩ : Fixed Nat) [4, 5, 6, 7, 8]).2 = [1, 2, 3, 4, 5] ∧
    (Fixed.pushAll (⟨[3, 1, 2], 1⟩ : Fixed Nat) [4, 5, 6, 7, 8]).1.abs = [6, 7, 8] := by
  decide

example :
    ((⟨[3, 1, 2], 1⟩ : Fixed Nat).run [.get 4, .setFirst 5, .slices, .iter, .iterLoop 5, .push 9, .getMut 3 0, .iter]).2
    = [.opt (some 2), .unit, .pair [2] [3, 1], .list [2, 3, 1], .list [2, 3, 1, 2, 3], .opt (some 2),
       .opt (some 3), .list [0, 1, 9]] := by
  decide

end Dasp.Props.C06
