import Dasp.Model.Nodes
import Dasp.Lemmas.RingOps
/-! Helper lemmas for C16: what each built-in node writes, row by row; the Delay node's ring through the
`Fixed` of C06 (`push_eq_fixed`, `pushAll_eq_fixed`, `content_eq_abs`), so a block pushed (`pushAll_spec`) is
`Fixed.pushAll_spec`.  Core Lean only. -/
namespace Dasp.Nodes

variable {α : Type}

/-- the buffers of channel `c` of those inputs that have a channel `c`, in input order -/
def chan (c : Nat) (inputs : List (Bufs α)) : List (Buf α) := inputs.filterMap (·[c]?)

/-- sample `i` of the mix of `bs`: `((0 + b₁[i]) + b₂[i]) + …` in list order -/
def mixAt [Add α] [Zero α] (i : Nat) (bs : List (Buf α)) : α := (bs.filterMap (·[i]?)).foldl (· + ·) 0

theorem silent_length [Zero α] : (silent : Buf α).length = LEN := by simp [silent]

theorem silent_get [Zero α] (i : Nat) (hi : i < LEN) : (silent : Buf α)[i]? = some 0 := by
  simp [silent, hi]

theorem foldl_addInPlace_length [Add α] {n : Nat} (bs : List (Buf α)) (hb : ∀ b ∈ bs, b.length = n)
    (acc : Buf α) (ha : acc.length = n) : (bs.foldl addInPlace acc).length = n := by
  induction bs generalizing acc with
  | nil => exact ha
  | cons b bs ih =>
    exact ih (fun x hx => hb x (List.mem_cons_of_mem _ hx)) _
      (by rw [addInPlace, List.length_zipWith, ha, hb b List.mem_cons_self, Nat.min_self])

theorem foldl_addInPlace_getElem? [Add α] (bs : List (Buf α)) {i : Nat} (hb : ∀ b ∈ bs, i < b.length)
    (acc : Buf α) (a : α) (ha : acc[i]? = some a) :
    (bs.foldl addInPlace acc)[i]? = some ((bs.filterMap (·[i]?)).foldl (· + ·) a) := by
  induction bs generalizing acc a with
  | nil => exact ha
  | cons b bs ih =>
    have hbi := List.getElem?_eq_getElem (hb b List.mem_cons_self)
    rw [List.foldl_cons, List.filterMap_cons, hbi]
    exact ih (fun x hx => hb x (List.mem_cons_of_mem _ hx)) _ _
      (by rw [addInPlace, List.getElem?_zipWith, ha, hbi])

theorem foldl_chan [Add α] (c : Nat) (inputs : List (Bufs α)) (acc : Buf α) :
    inputs.foldl (fun out inp => match inp[c]? with
      | some inBuf => addInPlace out inBuf
      | none => out) acc = (chan c inputs).foldl addInPlace acc := by
  rw [chan, List.foldl_filterMap]
  -- the same `match`, compiled once for `sum` and once for the library lemma
  congr; funext out inp; cases inp[c]? <;> rfl

theorem chan_ok (c : Nat) (inputs : List (Bufs α)) (hin : ∀ inp ∈ inputs, BufsOk inp) :
    ∀ b ∈ chan c inputs, b.length = LEN := by
  intro b hb
  simp only [chan, List.mem_filterMap] at hb
  obtain ⟨inp, hinp, hb⟩ := hb
  exact hin inp hinp b (List.mem_of_getElem? hb)

theorem mix_silent [Add α] [Zero α] (bs : List (Buf α)) (hb : ∀ b ∈ bs, b.length = LEN) :
    (bs.foldl addInPlace silent).length = LEN ∧
      ∀ i, i < LEN → (bs.foldl addInPlace silent)[i]? = some (mixAt i bs) :=
  ⟨foldl_addInPlace_length bs hb silent silent_length,
    fun i hi => foldl_addInPlace_getElem? bs (fun b h => hb b h ▸ hi) silent 0 (silent_get i hi)⟩

theorem sum_getElem? [Add α] [Zero α] (inputs : List (Bufs α)) {output : Bufs α} {c : Nat} (hc : c < output.length) :
    (sum inputs output)[c]? = some ((chan c inputs).foldl addInPlace silent) := by
  simp only [sum, List.getElem?_map, List.getElem?_range hc, Option.map_some]
  exact congrArg some (foldl_chan c inputs silent)

theorem sumBuffers_eq [Add α] [Zero α] (inputs : List (Bufs α)) (output : Bufs α) :
    sumBuffers inputs output = output.map fun _ => inputs.flatten.foldl addInPlace silent := by
  cases output with
  | nil => rfl
  | cons o rest => rw [List.foldl_flatten]; rfl

theorem zipCopy_length (out inp : Bufs α) : (zipCopy out inp).length = out.length := by
  fun_induction zipCopy out inp <;> simp_all

theorem zipCopy_getElem? (out inp : Bufs α) (c : Nat) :
    (zipCopy out inp)[c]? = if c < out.length ∧ c < inp.length then inp[c]? else out[c]? := by
  fun_induction zipCopy out inp generalizing c with
  | case1 o os b bs ih =>
    cases c with
    | zero => simp
    | succ c => simp [ih]
  | case2 os => simp
  | case3 => simp

theorem signalNode_length [Zero α] (s : Sig α) (output : Bufs α) :
    (signalNode s output).2.length = output.length := by
  simp only [signalNode, List.length_append, List.length_map, List.length_range, List.length_drop]; omega

theorem signalNode_getElem? [Zero α] (s : Sig α) (output : Bufs α) (ch : Nat) :
    (signalNode s output).2[ch]? = if ch < min s.channels output.length
      then some ((List.range LEN).map fun ix => (s.frame (s.pos + ix)).getD ch 0) else output[ch]? := by
  simp only [signalNode, List.getElem?_append, List.length_map, List.length_range, List.getElem?_map,
    List.getElem?_drop]
  split
  · rw [List.getElem?_range ‹_›]; rfl
  · congr 1; omega

/-- `first < len` (what `Fixed::from` / `from_raw_parts` assert; implies `len > 0`) -/
def Ring.Ok (r : Ring α) : Prop := r.first < r.data.length

/-- logical content, oldest element first -/
def Ring.content (r : Ring α) : List α := r.data.drop r.first ++ r.data.take r.first

theorem content_length (r : Ring α) : r.content.length = r.data.length := by
  rw [Ring.content, List.length_append, List.length_drop, List.length_take]; omega

/-- same storage, same `first`: the node's ring as the `Fixed` of Model/Ring.lean -/
def Ring.toFixed (r : Ring α) : Dasp.Ring.Fixed α := ⟨r.data, r.first⟩

theorem push_eq_fixed [Inhabited α] (r : Ring α) (x : α) (h : r.Ok) :
    r.push x = some (⟨(r.toFixed.push x).1.first, (r.toFixed.push x).1.data⟩, (r.toFixed.push x).2) := by
  simp only [Ring.push, List.getElem?_eq_getElem h, Ring.toFixed, Dasp.Ring.Fixed.push, Dasp.Ring.Fixed.len]
  rw [getElem!_pos r.data _ h]
  rfl

theorem content_eq_abs [Inhabited α] (r : Ring α) (h : r.Ok) : r.content = r.toFixed.abs :=
  (Dasp.Ring.window_full r.data (Nat.le_of_lt h)).symm

open Dasp.Props.C06 in
/-- a block through the node's ring is the block through the `Fixed`: same ring afterwards, same outputs -/
theorem pushAll_eq_fixed [Inhabited α] (xs : Buf α) (r : Ring α) (h : r.Ok) :
    pushAll r xs = some (⟨(Fixed.pushAll r.toFixed xs).1.first, (Fixed.pushAll r.toFixed xs).1.data⟩,
      (Fixed.pushAll r.toFixed xs).2) := by
  induction xs generalizing r with
  | nil => rfl
  | cons x xs ih =>
    simp only [pushAll, push_eq_fixed r x h]
    rw [ih ⟨_, _⟩ (Fixed.push_inv r.toFixed x h)]; rfl

open Dasp.Props.C06 in
/-- **pushing a block**: the ring is a delay line of `content.length = ring length` samples — what was in
    it followed by what is fed is what comes out followed by what is in it, and as much comes out as is fed -/
theorem pushAll_spec (xs : Buf α) (r : Ring α) (h : r.Ok) :
    ∃ r' outs, pushAll r xs = some (r', outs) ∧ r'.Ok ∧ r'.data.length = r.data.length ∧
      outs.length = xs.length ∧ r.content ++ xs = outs ++ r'.content := by
  -- `Fixed` reads with `data[i]!`; on a valid ring every read is in range, so any default element serves
  haveI : Inhabited α := ⟨r.data[r.first]'h⟩
  obtain ⟨h1, hl, -⟩ := Fixed.extend_abs xs r.toFixed h
  obtain ⟨h2, h3⟩ := Fixed.pushAll_spec xs r.toFixed h
  rw [← Fixed.pushAll_fst] at h1 hl
  refine ⟨_, _, pushAll_eq_fixed xs r h, h1, hl, ?_, ?_⟩
  · rw [h2, List.length_take, List.length_append]; omega
  · rw [content_eq_abs r h, h2, (content_eq_abs ⟨_, _⟩ h1).trans h3, List.take_append_drop]

end Dasp.Nodes
