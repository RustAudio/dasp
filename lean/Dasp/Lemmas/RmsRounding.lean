import Dasp.Lemmas.Rms
import Dasp.Lemmas.Rounding
import Mathlib.Data.List.Forall2
import Mathlib.Tactic.Linarith
import Mathlib.Tactic.Ring
import Mathlib.Tactic.Positivity
/-!
# Forward error analysis of the RMS detector in ROUNDED arithmetic (C11, "to within a rigorous
floating-point error bound")

`rndArith rnd` (`Lemmas/FieldArith.lean`) is the arithmetic of `Model/Rms.lean` at a linearly ordered field in
which every operation is the exact one followed by one application of a rounding function `rnd`
(the standard model of IEEE arithmetic: `fl(a ∘ b) = rnd (a ∘ b)`).  `RndOK rnd u η` is all that is
assumed of `rnd`: `|rnd x − x| ≤ u·|x| + η` (relative error `u` in the normal range, absolute error `η`
in the subnormal range) and `rnd` keeps non-negative numbers non-negative.  `Lemmas/RoundRel.lean`
proves exactly these facts of the rounding of the executable soft-float (`u = 2^−prec`,
`η = 2^(emin−1)`), whose agreement with the hardware is validated on every run.

The SAME `Chan.nextSquared` that the driver runs at binary32/binary64 is analysed here: the running
sum drifts from the sum of the window by at most `E_k` after `k` frames, `E_{k+1} = (1+3u)·E_k + C`,
`C = u·(3N+4)·B + 3η`, where `B` bounds the computed squares.
-/
set_option linter.unusedSectionVars false  -- what only unfolds the model does not use the order on `K`

namespace Dasp.Rms.Rounding
open Dasp Dasp.Rms

variable {K : Type} [Field K] [LinearOrder K] [IsStrictOrderedRing K]

def nextSqR (rnd : K → K) (c : Chan K) (x : K) : Chan K × K :=
  @Chan.nextSquared K (rndArith rnd) c x

/-- the running sum the code computes (lib.rs:148-157), spelled out -/
def newSum (rnd : K → K) (c : Chan K) (x : K) : K :=
  if rnd (rnd (c.sum + rnd (x * x)) - c.window.headD 0) < 0 then 0
  else rnd (rnd (c.sum + rnd (x * x)) - c.window.headD 0)

theorem nextSqR_eq (rnd : K → K) (c : Chan K) (x : K) :
    nextSqR rnd c x =
      (⟨c.window.drop 1 ++ [rnd (x * x)], newSum rnd c x⟩,
       rnd (newSum rnd c x / ((c.window.drop 1 ++ [rnd (x * x)]).length : K))) := by
  simp [nextSqR, Chan.nextSquared, Chan.calcSquared, newSum, Arith.mul, Arith.add, Arith.sub, Arith.div,
    Arith.lt, Arith.zero, Arith.ofLen]

/-- `Approx.close_add` along two lists -/
theorem forall2_sum_close {δ : K} {l1 l2 : List K}
    (h : List.Forall₂ (fun a b => |a - b| ≤ δ) l1 l2) : |l1.sum - l2.sum| ≤ l1.length * δ := by
  induction h with
  | nil => simp
  | cons hab _ ih =>
    rw [List.sum_cons, List.sum_cons, List.length_cons, Nat.cast_succ, add_mul, one_mul, add_comm _ δ]
    exact Approx.close_add hab ih

def errStep (u C E : K) : K := (1 + 3 * u) * E + C

def errBound (u C : K) : Nat → K
  | 0 => 0
  | k + 1 => errStep u C (errBound u C k)

def stepC (n : Nat) (u η B : K) : K := u * ((3 * (n : K) + 4) * B) + 3 * η

theorem errBound_nonneg {u C : K} (hu : 0 ≤ u) (hC : 0 ≤ C) : ∀ k, 0 ≤ errBound u C k
  | 0 => le_refl _
  | k + 1 => by
    have := errBound_nonneg hu hC k
    simp only [errBound, errStep]; positivity

theorem errBound_mono {u C : K} (hu : 0 ≤ u) (hC : 0 ≤ C) (k : Nat) : errBound u C k ≤ errBound u C (k + 1) := by
  have := mul_nonneg hu (errBound_nonneg hu hC k)
  simp only [errBound, errStep]
  linarith

theorem errBound_le_pow {u C : K} (hu : 0 ≤ u) (hC : 0 ≤ C) : ∀ k : Nat, errBound u C k ≤ k * C * (1 + 3 * u) ^ k
  | 0 => by simp [errBound]
  | k + 1 => by
    have hq : (1 : K) ≤ 1 + 3 * u := le_add_of_nonneg_right (mul_nonneg zero_le_three hu)
    -- with `q = 1 + 3u ≥ 1`: `q·E_k + C ≤ q·(k·C·q^k) + C·q^(k+1)`
    refine (add_le_add (mul_le_mul_of_nonneg_left (errBound_le_pow hu hC k) (zero_le_one.trans hq))
      (le_mul_of_one_le_right hC (one_le_pow₀ hq (n := k + 1)))).trans_eq ?_
    rw [Nat.cast_succ]; ring

theorem errBound_linear {u C : K} (hu : 0 ≤ u) (hC : 0 ≤ C) (k : Nat) (hk : 6 * u * k ≤ 1) :
    errBound u C k ≤ 2 * k * C := by
  induction k with
  | zero => simp [errBound]
  | succ k ih =>
    rw [Nat.cast_succ] at hk
    -- `(1+3u)·2kC + C = 2kC + 6uk·C + C` and `6uk ≤ 1`
    have h1 := mul_le_mul_of_nonneg_left (ih (by linarith)) (by linarith : (0 : K) ≤ 1 + 3 * u)
    have h2 := mul_le_mul_of_nonneg_right hk hC
    have h3 := mul_nonneg hu hC
    rw [errBound, errStep, Nat.cast_succ]
    linarith

theorem stepC_nonneg (n : Nat) {u η B : K} (hu : 0 ≤ u) (hη : 0 ≤ η) (hB : 0 ≤ B) : 0 ≤ stepC n u η B := by
  unfold stepC; positivity

/-- two roundings, each of a value whose exact counterpart lies in `[0, (n+1)·B]`, turn a drift `E` into at most
    `(1+u)²E + u(2+u)(n+1)B + (2+u)η`, which `u ≤ 1` brings below `errStep u (stepC n u η B) E` -/
theorem drift_step_le {u η B E nK : K} (hu0 : 0 ≤ u) (hu1 : u ≤ 1) (hη : 0 ≤ η) (hB : 0 ≤ B) (hE : 0 ≤ E)
    (hn : 0 ≤ nK) :
    (1 + u) * ((1 + u) * E + u * ((nK + 1) * B) + η) + u * ((nK + 1) * B) + η
      ≤ (1 + 3 * u) * E + (u * ((3 * nK + 4) * B) + 3 * η) := by
  have huu : u * u ≤ u := by simpa using mul_le_mul_of_nonneg_left hu1 hu0
  have h1 : u * u * E ≤ u * E := mul_le_mul_of_nonneg_right huu hE
  have h2 : u * u * ((nK + 1) * B) ≤ u * ((nK + 1) * B) := mul_le_mul_of_nonneg_right huu (by positivity)
  have h3 : u * η ≤ η := mul_le_of_le_one_left hη hu1
  have h4 : 0 ≤ u * B := mul_nonneg hu0 hB
  linarith

/-- the clamp at zero only helps: the target is non-negative -/
theorem abs_clamp_sub_le {d x ε : K} (hx : 0 ≤ x) (h : |d - x| ≤ ε) : |(if d < 0 then 0 else d) - x| ≤ ε := by
  split_ifs with hneg
  · rw [zero_sub, abs_neg, abs_of_nonneg hx]; linarith [(abs_le.mp h).1]
  · exact h

/-- `s` is within `E` of `r + rest`, the sum of `n` values of `[0, B]` of which `r` is the one evicted, and `sq ∈ [0, B]`:
    then `fl(fl(s + sq) − r)` is within the advanced drift bound of `rest + sq` -/
theorem RndOK.drift {rnd : K → K} {u η : K} (ok : RndOK rnd u η) {s r rest sq B E : K} {n : Nat}
    (hs : |s - (r + rest)| ≤ E) (hr : 0 ≤ r) (hrest : 0 ≤ rest) (hW : r + rest ≤ n * B) (hsq0 : 0 ≤ sq) (hsq : sq ≤ B) :
    |rnd (rnd (s + sq) - r) - (rest + sq)| ≤ errStep u (stepC n u η B) E := by
  have hN : ∀ {z : K}, 0 ≤ z → z ≤ r + rest + sq → |z| ≤ ((n : K) + 1) * B := fun h0 h1 => by
    rw [abs_of_nonneg h0]; linarith
  have t1 := ok.close_of_le (x := r + rest + sq) (ε := E) (by rwa [add_sub_add_right_eq_sub])
    (hN (add_nonneg (add_nonneg hr hrest) hsq0) le_rfl)
  rw [add_assoc, ← sub_sub] at t1
  exact (ok.close_of_le t1 (hN (add_nonneg hrest hsq0) (by linarith))).trans
    (drift_step_le ok.u0 ok.u1 ok.η0 (hsq0.trans hsq) ((abs_nonneg _).trans hs) (Nat.cast_nonneg n))

/-- what holds of one channel in every state reached in rounded arithmetic: the window has its
    length, holds the computed squares (each within `δ` of the true square, in `[0, B]`), and the
    running sum is within `E` of the sum of the window -/
structure RInv (n : Nat) (B δ E : K) (c : Chan K) (live : List K) : Prop where
  len : c.window.length = n
  rng : ∀ y ∈ c.window, 0 ≤ y ∧ y ≤ B
  sum : |c.sum - c.window.sum| ≤ E
  close : List.Forall₂ (fun a b => |a - b| ≤ δ) c.window (specWindow n live)

theorem RInv.init (rnd : K → K) (n : Nat) {B δ : K} (hB : 0 ≤ B) (hδ : 0 ≤ δ) :
    RInv n B δ 0 (@Chan.init K (rndArith rnd) n) [] := by
  rw [show @Chan.init K (rndArith rnd) n = ⟨List.replicate n 0, 0⟩ from rfl]
  refine ⟨List.length_replicate, fun y hy => ?_, by simp, ?_⟩
  · rw [List.eq_of_mem_replicate hy]; exact ⟨le_refl _, hB⟩
  · rw [specWindow_nil]
    exact List.forall₂_same.mpr (fun x _ => by simpa using hδ)

theorem init_eq (rnd : K → K) (n : Nat) :
    @Chan.init K (rndArith rnd) n = @Chan.init K (rndArith (fun x => x)) n := rfl

theorem RInv.mono {n : Nat} {B δ E E' : K} {c : Chan K} {live : List K} (h : RInv n B δ E c live) (hE : E ≤ E') :
    RInv n B δ E' c live := ⟨h.len, h.rng, le_trans h.sum hE, h.close⟩

theorem RInv.sum_nonneg {n : Nat} {B δ E : K} {c : Chan K} {live : List K} (h : RInv n B δ E c live) :
    0 ≤ c.window.sum :=
  List.sum_nonneg fun y hy => (h.rng y hy).1

theorem RInv.sum_le {n : Nat} {B δ E : K} {c : Chan K} {live : List K} (h : RInv n B δ E c live) :
    c.window.sum ≤ n * B :=
  (List.sum_le_card_nsmul _ B fun y hy => (h.rng y hy).2).trans_eq (by rw [nsmul_eq_mul, h.len])

theorem RInv.step {n : Nat} (hn : 1 ≤ n) {rnd : K → K} {u η B δ E : K} (ok : RndOK rnd u η)
    (hB : 0 ≤ B) (hE : 0 ≤ E) {c : Chan K} {live : List K} (h : RInv n B δ E c live)
    (x : K) (hxB : rnd (x * x) ≤ B) (hxc : |rnd (x * x) - x * x| ≤ δ) :
    RInv n B δ (errStep u (stepC n u η B) E) (nextSqR rnd c x).1 (live ++ [x]) := by
  rw [nextSqR_eq]
  have hsq0 : 0 ≤ rnd (x * x) := ok.nonneg _ (mul_self_nonneg x)
  have hdrop : ∀ y ∈ c.window.drop 1, y ∈ c.window := fun y => List.mem_of_mem_drop
  have hsplit := headD_add_sum_drop c.window
  have hrest0 : 0 ≤ (c.window.drop 1).sum := List.sum_nonneg fun y hy => (h.rng y (hdrop y hy)).1
  have hr0 : 0 ≤ c.window.headD 0 := by
    cases hw : c.window with
    | nil => simp
    | cons a t => exact (h.rng a (by simp [hw])).1
  refine ⟨by simp [h.len]; omega, ?_, ?_, ?_⟩
  · intro y hy
    rcases List.mem_append.mp hy with hy | hy
    · exact h.rng y (hdrop y hy)
    · rw [List.mem_singleton.mp hy]; exact ⟨hsq0, hxB⟩
  · show |newSum rnd c x - (c.window.drop 1 ++ [rnd (x * x)]).sum| ≤ _
    rw [List.sum_append, List.sum_singleton]
    exact abs_clamp_sub_le (add_nonneg hrest0 hsq0)
      (ok.drift (hsplit ▸ h.sum) hr0 hrest0 (hsplit ▸ h.sum_le) hsq0 hxB)
  · rw [specWindow_snoc hn]
    exact List.rel_append (List.forall₂_drop 1 h.close) (List.Forall₂.cons hxc List.Forall₂.nil)

def feedR (rnd : K → K) (c : Chan K) (xs : List K) : Chan K := xs.foldl (fun c x => (nextSqR rnd c x).1) c

theorem feedR_snoc (rnd : K → K) (c : Chan K) (xs : List K) (x : K) :
    feedR rnd c (xs ++ [x]) = (nextSqR rnd (feedR rnd c xs) x).1 := by
  simp [feedR, List.foldl_append]

/-- **any number of frames**: after `k` inputs whose computed squares stay within `[0, B]` and
    within `δ` of the true squares, the invariant holds with drift bound `E_k` -/
theorem RInv.feed {n : Nat} (hn : 1 ≤ n) {rnd : K → K} {u η B δ : K} (ok : RndOK rnd u η)
    (hB : 0 ≤ B) (hδ : 0 ≤ δ) (xs : List K)
    (hx : ∀ x ∈ xs, rnd (x * x) ≤ B ∧ |rnd (x * x) - x * x| ≤ δ) :
    RInv n B δ (errBound u (stepC n u η B) xs.length) (feedR rnd (@Chan.init K (rndArith rnd) n) xs) xs := by
  induction xs using List.reverseRecOn with
  | nil => simpa [feedR, errBound] using RInv.init rnd n hB hδ
  | append_singleton xs x ih =>
    have ih' := ih (fun y hy => hx y (by simp [hy]))
    obtain ⟨h1, h2⟩ := hx x (by simp)
    rw [feedR_snoc]
    have := RInv.step hn ok hB (errBound_nonneg ok.u0 (stepC_nonneg n ok.u0 ok.η0 hB) xs.length) ih' x h1 h2
    simpa [errBound] using this

/-- `calc_rms_squared` in any state satisfying the invariant (what `next_squared` returns and `current` takes the root
    of) is within `δ + u·B + η + (1+u)·E/N` of the exact mean of the squares of the last `N` inputs -/
theorem RInv.calc_close {n : Nat} (hn : 1 ≤ n) {rnd : K → K} {u η B δ E : K} (ok : RndOK rnd u η)
    {c : Chan K} {live : List K} (h : RInv n B δ E c live) :
    |@Chan.calcSquared K (rndArith rnd) c - meanSq n live| ≤ δ + u * B + η + (1 + u) * E / n := by
  have hnK : (0 : K) < n := Nat.cast_pos.mpr hn
  have hdiv : ∀ a b : K, |a / n - b / n| = |a - b| / n := fun a b => by rw [← sub_div, abs_div, abs_of_pos hnK]
  have hcl := forall2_sum_close h.close
  rw [h.len] at hcl
  -- through the mean `W/N` of the computed window: one rounding of `sum/N`, and `|W/N − mean| ≤ δ`
  have h1 := ok.close_of_le ((hdiv _ _).trans_le (div_le_div_of_nonneg_right h.sum hnK.le))
    ((abs_of_nonneg (div_nonneg h.sum_nonneg hnK.le)).trans_le ((div_le_iff₀' hnK).mpr h.sum_le))
  have h2 : |c.window.sum / n - meanSq n live| ≤ δ := (hdiv _ _).trans_le ((div_le_iff₀' hnK).mpr hcl)
  show |rnd (c.sum / (c.window.length : K)) - _| ≤ _
  rw [h.len, mul_div_assoc]
  exact (abs_sub_le _ _ _).trans ((add_le_add h1 h2).trans_eq (by ring))

/-- **the output**: in any state satisfying the invariant, the value `next_squared` returns is
    within `δ + u·B + η + (1+u)·E'/N` of the exact mean of the squares of the last `N` inputs, where
    `E'` is the advanced drift bound -/
theorem out_close {n : Nat} (hn : 1 ≤ n) {rnd : K → K} {u η B δ E : K} (ok : RndOK rnd u η)
    (hB : 0 ≤ B) (hE : 0 ≤ E) (hδ : 0 ≤ δ) {c : Chan K} {live : List K} (h : RInv n B δ E c live)
    (x : K) (hxB : rnd (x * x) ≤ B) (hxc : |rnd (x * x) - x * x| ≤ δ) :
    |(nextSqR rnd c x).2 - meanSq n (live ++ [x])|
      ≤ δ + u * B + η + (1 + u) * errStep u (stepC n u η B) E / n :=
  (RInv.step hn ok hB hE h x hxB hxc).calc_close hn ok

end Dasp.Rms.Rounding
