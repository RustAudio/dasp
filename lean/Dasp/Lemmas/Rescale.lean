import Dasp.Machine.Int
/-!
# Power-of-two rescaling of amplitudes, and `specConv` in terms of it

`specConv s d v` is `rescale s.bits d.bits` applied to the signed amplitude `v − s.off`, re-offset by `d.off`.
Everything C01 says about the specification (range, extremes, monotonicity, round trip, via an
intermediate format) is a fact about `rescale` for arbitrary bit widths; the twelve formats enter only
through `Fmt.bits_pos`, `Fmt.lo_sub_off` and `Fmt.hi_sub_off`.  The other facts that hold by going through the
twelve formats stand beside these three: `Fmt.off_eq` (for `specForm`), `Fmt.off_inRange`, `lo_inRange`, `hi_inRange`
(C01, C02), `Fmt.bits_pred_le` and `Fmt.amp_bound` (the float conversions, C02, C03).  Core Lean only: the generated
conversion theorems import this file.
-/
namespace Dasp

/-- `x · 2^(b−a)`, rounded towards −∞ when `b < a`: an amplitude of `a` bits rescaled to `b` bits. -/
def rescale (a b : Nat) (x : Int) : Int :=
  if a ≤ b then x * 2 ^ (b - a) else x / 2 ^ (a - b)

theorem two_pow_pos (n : Nat) : (0 : Int) < 2 ^ n := Int.pow_pos (by decide)

theorem two_pow_split {a b : Nat} (c : Nat) (h : a = b + c) : (2 : Int) ^ a = 2 ^ b * 2 ^ c := by
  rw [h, Int.pow_add]

theorem rescale_widen {a b : Nat} (h : a ≤ b) (x : Int) : rescale a b x = x * 2 ^ (b - a) := if_pos h

theorem rescale_narrow {a b : Nat} (h : b ≤ a) (x : Int) : rescale a b x = x / 2 ^ (a - b) := by
  unfold rescale; split
  · rw [Nat.le_antisymm ‹_› h]; simp
  · rfl

theorem rescale_self (a : Nat) (x : Int) : rescale a a x = x := by
  rw [rescale_widen (Nat.le_refl a)]; simp

theorem rescale_zero (a b : Nat) : rescale a b 0 = 0 := by
  unfold rescale; split <;> simp

/-- Going through `m` bits loses nothing as long as `m` is at least as wide as the narrower end:
    the only information dropped is what `a → b` drops anyway. -/
theorem rescale_via {a m b : Nat} (h : min a b ≤ m) (x : Int) :
    rescale m b (rescale a m x) = rescale a b x := by
  rcases Nat.le_total a m with ham | hma
  · rw [rescale_widen ham]
    rcases Nat.le_total m b with hmb | hbm
    · rw [rescale_widen hmb, rescale_widen (Nat.le_trans ham hmb), Int.mul_assoc, ← Int.pow_add]
      congr 2; omega
    · rw [rescale_narrow hbm]
      rcases Nat.le_total a b with hab | hba
      · rw [rescale_widen hab, two_pow_split (a := m - a) (b := b - a) (m - b) (by omega), ← Int.mul_assoc,
          Int.mul_ediv_cancel _ (Int.ne_of_gt (two_pow_pos _))]
      · rw [rescale_narrow hba, two_pow_split (a := m - b) (b := a - b) (m - a) (by omega),
          Int.mul_ediv_mul_of_pos_left _ _ (two_pow_pos _)]
  · rcases (by omega : b ≤ m ∨ a = m) with hbm | rfl
    · rw [rescale_narrow hma, rescale_narrow hbm, rescale_narrow (Nat.le_trans hbm hma),
        Int.ediv_ediv_of_nonneg (Int.le_of_lt (two_pow_pos _)), ← Int.pow_add]
      congr 2; omega
    · rw [rescale_self]

/-- Adding `y` at the wide end and narrowing back adds `⌊y / 2^(b−a)⌋`: the widened value has zero low bits. -/
theorem rescale_widen_add_narrow {a b : Nat} (h : a ≤ b) (x y : Int) :
    rescale b a (rescale a b x + y) = x + y / 2 ^ (b - a) := by
  rw [rescale_narrow h, rescale_widen h, Int.add_comm, Int.add_mul_ediv_right _ _ (Int.ne_of_gt (two_pow_pos _)),
    Int.add_comm]

theorem rescale_mono (a b : Nat) {x y : Int} (h : x ≤ y) : rescale a b x ≤ rescale a b y := by
  unfold rescale; split
  · exact Int.mul_le_mul_of_nonneg_right h (Int.le_of_lt (two_pow_pos _))
  · exact Int.ediv_le_ediv (two_pow_pos _) h

theorem rescale_strictMono {a b : Nat} (hab : a ≤ b) {x y : Int} (h : x < y) :
    rescale a b x < rescale a b y := by
  rw [rescale_widen hab, rescale_widen hab]; exact Int.mul_lt_mul_of_pos_right h (two_pow_pos _)

/-- The most negative `a`-bit amplitude is the one-bit amplitude `−1` widened to `a` bits, so `rescale_via`
    sends it to the most negative `b`-bit amplitude. -/
theorem rescale_bot {a b : Nat} (ha : 1 ≤ a) (hb : 1 ≤ b) : rescale a b (-2 ^ (a - 1)) = -2 ^ (b - 1) := by
  have e (n : Nat) (hn : 1 ≤ n) : (-2 ^ (n - 1) : Int) = rescale 1 n (-1) := by rw [rescale_widen hn]; simp
  rw [e a ha, e b hb, rescale_via (by omega)]

theorem rescale_top {a b : Nat} (ha : 1 ≤ a) (hb : 1 ≤ b) :
    rescale a b (2 ^ (a - 1) - 1) = if b ≤ a then 2 ^ (b - 1) - 1 else 2 ^ (b - 1) - 1 - (2 ^ (b - a) - 1) := by
  split
  · next hba =>
    -- 2^(a−1) − 1 = (k − 1) + (2^(b−1) − 1)·k with k = 2^(a−b), and 0 ≤ k − 1 < k
    have hk := two_pow_pos (a - b)
    rw [rescale_narrow hba, two_pow_split (a := a - 1) (b := b - 1) (a - b) (by omega),
      show (2 : Int) ^ (b - 1) * 2 ^ (a - b) - 1 = (2 ^ (a - b) - 1) + (2 ^ (b - 1) - 1) * 2 ^ (a - b) by
        rw [Int.sub_mul]; omega,
      Int.add_mul_ediv_right _ _ (Int.ne_of_gt hk), Int.ediv_eq_zero_of_lt (by omega) (by omega)]
    omega
  · next hba =>
    rw [rescale_widen (by omega), Int.sub_mul, ← Int.pow_add, show a - 1 + (b - a) = b - 1 by omega]; omega

theorem Fmt.bits_pos (s : Fmt) : 1 ≤ s.bits := by cases s <;> decide
theorem Fmt.lo_sub_off (s : Fmt) : s.lo - s.off = -2 ^ (s.bits - 1) := by cases s <;> rfl
theorem Fmt.hi_sub_off (s : Fmt) : s.hi - s.off = 2 ^ (s.bits - 1) - 1 := by cases s <;> rfl
theorem Fmt.off_eq (s : Fmt) : s.off = 0 ∨ s.off = 2 ^ (s.bits - 1) := by cases s <;> decide
theorem Fmt.off_inRange (s : Fmt) : s.inRange s.off := by cases s <;> decide
theorem Fmt.lo_inRange (s : Fmt) : s.inRange s.lo := by cases s <;> decide
theorem Fmt.hi_inRange (s : Fmt) : s.inRange s.hi := by cases s <;> decide
theorem Fmt.bits_pred_le (s : Fmt) : s.bits - 1 ≤ 63 := by cases s <;> decide

theorem Fmt.amp_bound {s : Fmt} {v : Int} (h : s.inRange v) :
    -2 ^ (s.bits - 1) ≤ v - s.off ∧ v - s.off ≤ 2 ^ (s.bits - 1) - 1 := by
  have := s.lo_sub_off; have := s.hi_sub_off; have := h.1; have := h.2
  constructor <;> omega

theorem specConv_eq_rescale (s d : Fmt) (v : Int) :
    specConv s d v = rescale s.bits d.bits (v - s.off) + d.off := by
  unfold specConv rescale; split <;> rfl

theorem specConv_equilibrium (s d : Fmt) : specConv s d s.off = d.off := by
  rw [specConv_eq_rescale, Int.sub_self, rescale_zero, Int.zero_add]

theorem specConv_min (s d : Fmt) : specConv s d s.lo = d.lo := by
  have := d.lo_sub_off
  rw [specConv_eq_rescale, s.lo_sub_off, rescale_bot s.bits_pos d.bits_pos]; omega

theorem specConv_max (s d : Fmt) :
    specConv s d s.hi = if d.bits ≤ s.bits then d.hi else d.hi - (2 ^ (d.bits - s.bits) - 1) := by
  have := d.hi_sub_off
  rw [specConv_eq_rescale, s.hi_sub_off, rescale_top s.bits_pos d.bits_pos]; split <;> omega

theorem specConv_mono (s d : Fmt) {a b : Int} (h : a ≤ b) : specConv s d a ≤ specConv s d b := by
  have := rescale_mono s.bits d.bits (Int.sub_le_sub_right h s.off)
  rw [specConv_eq_rescale, specConv_eq_rescale]; omega

theorem specConv_strictMono {s d : Fmt} (hw : s.bits ≤ d.bits) {a b : Int} (h : a < b) :
    specConv s d a < specConv s d b := by
  have := rescale_strictMono hw (Int.sub_lt_sub_right h s.off)
  rw [specConv_eq_rescale, specConv_eq_rescale]; omega

theorem specConv_inRange (s d : Fmt) {v : Int} (hv : s.inRange v) : d.inRange (specConv s d v) := by
  have lo := specConv_mono s d hv.1
  have hi := specConv_mono s d hv.2
  rw [specConv_min] at lo
  rw [specConv_max] at hi
  refine ⟨lo, Int.le_trans hi ?_⟩
  have := two_pow_pos (d.bits - s.bits)
  split <;> omega

theorem specConv_via {s m d : Fmt} (hm : min s.bits d.bits ≤ m.bits) (v : Int) :
    specConv m d (specConv s m v) = specConv s d v := by
  simp only [specConv_eq_rescale, Int.add_sub_cancel, rescale_via hm]

theorem specConv_same_bits {s d : Fmt} (h : s.bits = d.bits) (v : Int) : specConv s d v = v - s.off + d.off := by
  rw [specConv_eq_rescale, h, rescale_self]

theorem specConv_widen_add_narrow {s d : Fmt} (h : s.bits ≤ d.bits) (v a : Int) :
    specConv d s (specConv s d v + a) = v + a / 2 ^ (d.bits - s.bits) := by
  rw [specConv_eq_rescale s d, specConv_eq_rescale d s, Int.add_right_comm, Int.add_sub_cancel,
    rescale_widen_add_narrow h]; omega

theorem specConv_roundtrip {s d : Fmt} (h : s.bits ≤ d.bits) (v : Int) :
    specConv d s (specConv s d v) = v := by
  rw [specConv_via (by omega), specConv_eq_rescale, rescale_self]; omega

end Dasp
