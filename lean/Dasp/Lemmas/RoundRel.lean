import Dasp.Lemmas.Round
import Dasp.Lemmas.Rounding
/-!
# `Machine/FP.round` and the operations built on it

`rs F x` is the value `round` yields for the exact result `x` when it does not overflow, as a function `ℚ → ℚ`: its
error, sign symmetry, monotonicity, idempotence are what the error analyses of C11, C17, C19, C20 assume of a
rounding.  `rsm`, `round_eq` describe `round` itself in sign–magnitude form, overflow and signed zeros included, and
every finite-operand case of `add`, `mul`, `div` is one such rounding of the exact result.

The value of a finite float `.fin n q` is written `sval n q` here and in `Lemmas/FloatConv.lean` (`fpVal` there is `sval` on
`FP`, 0 on inf/NaN).  The model files write the same `if n then -q else q` out (`add`, `cvt`, `toInt`) or name it
`FP.toRat?` (partial; `round_toRat_eq_rs` links it to `rs`) and `Osc.fpSigned` (in the comparison `fpLt` only).
-/
namespace Dasp

/-- the rational value of a sign-magnitude pair -/
def sval (n : Bool) (q : ℚ) : ℚ := if n then -q else q

theorem sval_mul (n : Bool) (q c : ℚ) : sval n (q * c) = sval n q * c := by cases n <;> simp [sval]

theorem sval_decide_abs (a : ℤ) : sval (decide (a < 0)) |(a : ℚ)| = a := by
  by_cases h : a < 0
  · simp [sval, h, abs_of_neg (show (a : ℚ) < 0 by exact_mod_cast h)]
  · simp [sval, h, abs_of_nonneg (show (0 : ℚ) ≤ a by exact_mod_cast not_lt.mp h)]

theorem abs_sval (n : Bool) (q : ℚ) : |sval n q| = |q| := by cases n <;> simp [sval]

theorem sval_sub (n : Bool) (u v : ℚ) : sval n u - sval n v = sval n (u - v) := by
  cases n <;> simp only [sval, if_true, Bool.false_eq_true, if_false]; ring

/-- a sign that is negative only on a zero magnitude does not change the value -/
theorem sval_of_zero_or_pos {n : Bool} {q : ℚ} (h : q = 0 ∨ n = false) : sval n q = q := by
  rcases h with rfl | rfl <;> simp [sval]

/-- rounding of a signed rational (sign-symmetric, `0 ↦ 0`): what `Machine/FP.round` yields as a
    value when it does not overflow -/
def rs (F : Fmt2) (x : Rat) : Rat := if x < 0 then -(rv F (-x)) else if x = 0 then 0 else rv F x

theorem rs_of_neg (F : Fmt2) {x : Rat} (hx : x < 0) : rs F x = -rv F (-x) := if_pos hx

theorem rs_of_nonneg (F : Fmt2) {x : Rat} (hx : 0 ≤ x) : rs F x = rv F x := by
  rw [rs, if_neg (not_lt.mpr hx)]
  split_ifs with h
  · rw [h, rv_zero]
  · rfl

theorem rs_eq_sval (F : Fmt2) (x : ℚ) : rs F x = sval (decide (x < 0)) (rv F |x|) := by
  rcases lt_or_ge x 0 with h | h
  · simp [rs_of_neg F h, sval, h, abs_of_neg h]
  · simp [rs_of_nonneg F h, sval, not_lt.mpr h, abs_of_nonneg h]

theorem rs_zero (F : Fmt2) : rs F 0 = 0 := by rw [rs_of_nonneg F le_rfl, rv_zero]

theorem rs_neg (F : Fmt2) (x : Rat) : rs F (-x) = - rs F x := by
  rcases lt_trichotomy x 0 with h | rfl | h
  · rw [rs_of_neg F h, neg_neg, rs_of_nonneg F (neg_nonneg.mpr h.le)]
  · rw [neg_zero, rs_zero, neg_zero]
  · rw [rs_of_neg F (neg_lt_zero.mpr h), neg_neg, rs_of_nonneg F h.le]

theorem rs_err (F : Fmt2) (x : Rat) :
    |rs F x - x| ≤ pow2 (-(F.prec : Int)) * |x| + pow2 (F.emin - 1) := by
  -- by symmetry, for `0 ≤ x` only
  have pos : ∀ y : Rat, 0 ≤ y → |rs F y - y| ≤ pow2 (-(F.prec : Int)) * |y| + pow2 (F.emin - 1) := by
    intro y hy
    rcases eq_or_lt_of_le hy with rfl | hy
    · rw [rs_zero, sub_zero, abs_zero, mul_zero, zero_add]; exact (pow2_pos _).le
    · rw [rs_of_nonneg F hy.le, abs_of_pos hy]; exact rv_rel_err F hy
  rcases le_total 0 x with h | h
  · exact pos x h
  · have := pos (-x) (neg_nonneg.mpr h)
    rwa [rs_neg, ← neg_sub', abs_neg, abs_neg] at this

theorem rs_nonneg (F : Fmt2) {x : Rat} (hx : 0 ≤ x) : 0 ≤ rs F x := by
  rw [rs_of_nonneg F hx]; exact rv_nonneg F hx

theorem rs_mono_nonneg (F : Fmt2) (hp : 1 ≤ F.prec) {x y : Rat} (hx : 0 ≤ x) (h : x ≤ y) : rs F x ≤ rs F y := by
  rw [rs_of_nonneg F hx, rs_of_nonneg F (le_trans hx h)]
  exact rv_mono F hp hx h

theorem rs_mono (F : Fmt2) (hp : 1 ≤ F.prec) {x y : Rat} (h : x ≤ y) : rs F x ≤ rs F y := by
  rcases le_total 0 x with hx | hx
  · exact rs_mono_nonneg F hp hx h
  · -- below zero `rs` is the mirror image of `rs` above
    rcases le_total 0 y with hy | hy
    · have := rs_neg F x ▸ rs_nonneg F (neg_nonneg.mpr hx)
      exact (neg_nonneg.mp this).trans (rs_nonneg F hy)
    · have := rs_mono_nonneg F hp (neg_nonneg.mpr hy) (neg_le_neg h)
      rwa [rs_neg, rs_neg, neg_le_neg_iff] at this

theorem rs_of_onGrid (F : Fmt2) {x : ℚ} (h : onGrid F |x|) : rs F x = x := by
  rcases lt_or_ge x 0 with hx | hx
  · rw [rs_of_neg F hx, ← abs_of_neg hx, rv_id F h, abs_of_neg hx, neg_neg]
  · rw [rs_of_nonneg F hx, ← abs_of_nonneg hx, rv_id F h]

theorem rs_idem (F : Fmt2) (hp : 1 ≤ F.prec) (x : Rat) : rs F (rs F x) = rs F x :=
  rs_of_onGrid F (by
    rw [rs_eq_sval, abs_sval, abs_of_nonneg (rv_nonneg F (abs_nonneg x))]
    exact rv_onGrid_nonneg F hp (abs_nonneg x))

/-- naturals of at most `prec` bits are fixed by the rounding -/
theorem rs_nat (F : Fmt2) (hp : 1 ≤ F.prec) (hemin : F.emin ≤ 0) {n : ℕ} (hb : n ≤ 2 ^ (F.prec - 1)) :
    rs F (n : ℚ) = n := by
  rw [rs_of_nonneg F (Nat.cast_nonneg n), rv_id F (onGrid_nat F hp hemin hb)]

/-- the rounding satisfies `RndOK` with `u = 2^−prec`, `η = 2^(emin−1)` — binary32: `u = 2^−24`, `η = 2^−150`;
    binary64: `u = 2^−53`, `η = 2^−1075` -/
theorem rs_rndOK (F : Fmt2) :
    Dasp.Rms.Rounding.RndOK (rs F) (pow2 (-(F.prec : Int))) (pow2 (F.emin - 1)) where
  u0 := le_of_lt (pow2_pos _)
  u1 := (pow2_mono (by omega)).trans_eq pow2_zero
  η0 := le_of_lt (pow2_pos _)
  err := rs_err F
  nonneg := fun _ hx => rs_nonneg F hx

/-- the float nearest to `(−1)^n · q` for `q ≥ 0`: a signed zero, the rounded magnitude, or on overflow the
    infinity of that sign.  Every finite-operand case of `mul`, `div`, `cvt`, `ofInt` is one `rsm`. -/
def rsm (F : Fmt2) (n : Bool) (q : ℚ) : FP :=
  if q = 0 then .fin n 0 else if rv F q < pow2 (F.emax + 1) then .fin n (rv F q) else .inf n

theorem rsm_zero (F : Fmt2) (n : Bool) : rsm F n 0 = .fin n 0 := if_pos rfl

theorem rsm_of_lt (F : Fmt2) (n : Bool) {q : ℚ} (hq : q ≠ 0) (h : rv F q < pow2 (F.emax + 1)) :
    rsm F n q = .fin n (rv F q) := by rw [rsm, if_neg hq, if_pos h]

/-- the zero test of `rsm` only spares it from rounding 0: `rv F 0 = 0` is below every threshold -/
theorem rsm_eq (F : Fmt2) (n : Bool) (q : ℚ) :
    rsm F n q = if rv F q < pow2 (F.emax + 1) then .fin n (rv F q) else .inf n := by
  by_cases hq : q = 0
  · rw [hq, rsm_zero, rv_zero, if_pos (pow2_pos _)]
  · rw [rsm, if_neg hq]

theorem rsm_exact (F : Fmt2) (n : Bool) {q : ℚ} (hg : onGrid F q) (h : q < pow2 (F.emax + 1)) :
    rsm F n q = .fin n q := by
  by_cases hq : q = 0
  · rw [hq, rsm_zero]
  · rw [rsm_of_lt F n hq (by rwa [rv_id F hg]), rv_id F hg]

theorem rsm_of_le_pow2 (F : Fmt2) (hp : 1 ≤ F.prec) (n : Bool) {q : ℚ} {k : ℤ} (hq : 0 ≤ q) (hk1 : F.emin ≤ k)
    (hk2 : k ≤ F.emax) (h : q ≤ pow2 k) : rsm F n q = .fin n (rv F q) := by
  rw [rsm_eq, if_pos ((rv_le_pow2_of_emin_le F hp hq hk1 h).trans_lt (pow2_lt (by omega)))]

theorem round_zero (F : Fmt2) (neg : Bool) : round F neg 0 = .fin neg 0 := by
  simp [round, roundPos]

/-- `round` on the exact value `(−1)^n · q`, the sign hint being the sign -/
theorem round_signed (F : Fmt2) (n : Bool) {q : ℚ} (hq : 0 ≤ q) : round F n (sval n q) = rsm F n q := by
  rcases eq_or_lt_of_le hq with rfl | hq
  · cases n <;> simp [sval, round_zero, rsm_zero]
  · have hne := ne_of_gt hq
    cases n
    · simp only [sval, Bool.false_eq_true, if_false, round, not_lt.mpr hq.le, roundPos_eq F q hne, rsm, hne]
      split_ifs <;> rfl
    · simp only [sval, if_true, round, neg_lt_zero.mpr hq, neg_neg, roundPos_eq F q hne, rsm, hne, if_false]
      split_ifs <;> rfl

/-- `round` in general: the hint only signs an exact zero -/
theorem round_eq (F : Fmt2) (neg : Bool) (x : ℚ) :
    round F neg x = if x = 0 then .fin neg 0 else rsm F (decide (x < 0)) |x| := by
  rcases lt_trichotomy x 0 with h | rfl | h
  · have := round_signed F true (q := -x) (by linarith)
    simp only [sval, if_true, neg_neg] at this
    have e : round F neg x = round F true x := by simp only [round, h, if_true]
    rw [e, this, if_neg (ne_of_lt h), abs_of_neg h, decide_eq_true h]
  · rw [round_zero, if_pos rfl]
  · have := round_signed F false (q := x) h.le
    simp only [sval, Bool.false_eq_true, if_false] at this
    have e : round F neg x = round F false x := by simp only [round, not_lt.mpr h.le, if_false, ne_of_gt h]
    rw [e, this, if_neg (ne_of_gt h), abs_of_pos h, decide_eq_false (not_lt.mpr h.le)]

theorem round_of_nonneg (F : Fmt2) (neg : Bool) {x : ℚ} (hx : 0 ≤ x) :
    round F neg x = if rv F x < pow2 (F.emax + 1) then .fin (neg && decide (x = 0)) (rv F x) else .inf false := by
  rcases eq_or_lt_of_le hx with rfl | hx
  · rw [round_zero, rv_zero, if_pos (pow2_pos _)]; simp
  · rw [round_eq, if_neg hx.ne', abs_of_pos hx, decide_eq_false (not_lt.mpr hx.le), rsm, if_neg hx.ne',
      decide_eq_false hx.ne', Bool.and_false]

/-- `n.0` / `n as fN` is exact for naturals of at most `prec` bits (f64: `n ≤ 2^52`) -/
theorem round_nat (F : Fmt2) (hp : 1 ≤ F.prec) (hemin : F.emin ≤ 0) (hemax : (F.prec : ℤ) ≤ F.emax + 1) (neg : Bool) {n : ℕ}
    (hb : n ≤ 2 ^ (F.prec - 1)) : round F neg n = .fin (neg && decide ((n : ℚ) = 0)) n := by
  rw [round_of_nonneg F neg (Nat.cast_nonneg n), rv_id F (onGrid_nat F hp hemin hb),
    if_pos ((natCast_le_pow2 hb).trans_lt (pow2_lt (by omega)))]

theorem round_of_pos (F : Fmt2) (neg : Bool) {q : ℚ} (hq : 0 < q) (hno : rv F q < pow2 (F.emax + 1)) :
    round F neg q = .fin false (rv F q) := by
  rw [round_eq, if_neg hq.ne', abs_of_pos hq, rsm_of_lt F _ hq.ne' hno, decide_eq_false (not_lt.mpr hq.le)]

theorem round_of_neg (F : Fmt2) (neg : Bool) {q : ℚ} (hq : q < 0) (hno : rv F (-q) < pow2 (F.emax + 1)) :
    round F neg q = .fin true (rv F (-q)) := by
  rw [round_eq, if_neg hq.ne, abs_of_neg hq, rsm_of_lt F _ (neg_ne_zero.mpr hq.ne) hno, decide_eq_true hq]

/-- the link to the executable soft-float: whenever `Machine/FP.round` returns a finite value, that
    value is `rs` of the exact argument -/
theorem round_toRat_eq_rs (F : Fmt2) (neg : Bool) (x : Rat) (v : Rat)
    (h : (round F neg x).toRat? = some v) : v = rs F x := by
  rw [round_eq] at h
  split_ifs at h with h0
  · rw [h0, rs_zero]; cases neg <;> simpa [FP.toRat?] using h.symm
  · rw [rsm_eq] at h
    split_ifs at h with h1
    · exact ((rs_eq_sval F x).trans (Option.some.inj h)).symm
    · cases h

theorem round_of_abs_le_pow2 (F : Fmt2) (hp : 1 ≤ F.prec) (neg : Bool) {x : ℚ} {k : ℤ} (hk1 : F.emin ≤ k) (hk2 : k ≤ F.emax)
    (h : |x| ≤ pow2 k) : round F neg x = .fin (if x = 0 then neg else decide (x < 0)) (rv F |x|) := by
  rw [round_eq]
  split_ifs with h0
  · rw [h0, abs_zero, rv_zero]
  · exact rsm_of_le_pow2 F hp _ (abs_nonneg x) hk1 hk2 h

theorem add_fin (F : Fmt2) (na nb : Bool) (a b : ℚ) :
    add F (.fin na a) (.fin nb b) = round F (na && nb) (sval na a + sval nb b) := rfl

theorem mul_fin (F : Fmt2) (na nb : Bool) {a b : ℚ} (h : 0 ≤ a * b) :
    mul F (.fin na a) (.fin nb b) = rsm F (na != nb) (a * b) := by
  rw [← round_signed F _ h]; cases hn : (na != nb) <;> simp [mul, sval, hn]

theorem div_fin (F : Fmt2) (na nb : Bool) {a b : ℚ} (hb : b ≠ 0) (h : 0 ≤ a / b) :
    div F (.fin na a) (.fin nb b) = rsm F (na != nb) (a / b) := by
  rw [← round_signed F _ h]; cases hn : (na != nb) <;> simp [div, sval, hb, hn]

theorem mul_exact (F : Fmt2) (n : Bool) {q c : ℚ} (h : 0 ≤ q * c) (hg : onGrid F (q * c))
    (hlt : q * c < pow2 (F.emax + 1)) : mul F (.fin n q) (.fin false c) = .fin n (q * c) := by
  rw [mul_fin F _ _ h, Bool.bne_false]; exact rsm_exact F n hg hlt

theorem mul_pow2_fin (F : Fmt2) (n : Bool) {q : ℚ} (hq : 0 ≤ q) (hq1 : q ≤ 1) (hg : onGrid F q) (k : ℕ)
    (hk : (k : ℤ) ≤ F.emax) : mul F (.fin n q) (.fin false ((2 : ℚ) ^ k)) = .fin n (q * 2 ^ k) := by
  rw [← pow2_nat]
  exact mul_exact F n (mul_nonneg hq (pow2_pos _).le) (onGrid_scale_up F hq hg k (by omega))
    ((mul_le_of_le_one_left (pow2_pos _).le hq1).trans_lt (pow2_lt (by omega)))

theorem mul_one_rep (F : Fmt2) (n : Bool) {q : ℚ} (h0 : 0 ≤ q) (hg : onGrid F q) (hl : q < pow2 (F.emax + 1)) :
    mul F (.fin n q) (.fin false 1) = .fin n q := by
  have := mul_exact F n (q := q) (c := 1)
  rw [mul_one] at this; exact this h0 hg hl

/-- multiplying by the exact reciprocal of a non-zero constant is the same IEEE operation as dividing by it
    (the exact result is the same rational, rounded once) — for every operand, specials included -/
theorem mul_inv_eq_div (F : Fmt2) (x : FP) (c : ℚ) (hc : c ≠ 0) :
    mul F x (.fin false c⁻¹) = div F x (.fin false c) := by
  cases x with
  | nan => simp [mul, div]
  | inf a => simp [mul, div, hc]
  | fin na a => simp [mul, div, hc, div_eq_mul_inv]

end Dasp
