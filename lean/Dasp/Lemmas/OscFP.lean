import Dasp.Model.OscFP
import Dasp.Lemmas.Osc
import Dasp.Lemmas.RoundRel

/-!
# The oscillators at the soft-float instance `fpArith sinO` (what the f64 code computes, one IEEE rounding per operation)

`GoodStep`, `FpSrcOK` are the hypothesis of C17's f64 theorems on the phase steps.  Phases and steps are `NonnegFin` values;
`FpInv` (the phase is one, below `w`) holds along every run because the rounded sum `phase + step` does not overflow and
`% w` is exact (`fp_wrap_range`, `fp_sum_no_overflow`), whence `fp_osc_frames`: every frame is the waveform of such a phase.
-/
namespace Dasp.Osc
open Dasp Dasp.Gen

variable (sinO : FP → FP)

theorem fp_ofNat (n : Nat) (hb : n ≤ 2 ^ 52) : (fpArith sinO).ofNat n = .fin false (n : Rat) :=
  round_nat f64 (by decide) (by decide) (by decide) false hb

/-- `x` is the finite float of magnitude `a ≥ 0`, and `-0.0` only as a zero: what phases and phase steps are -/
def NonnegFin (x : FP) (a : Rat) : Prop := ∃ n, x = .fin n a ∧ 0 ≤ a ∧ (a = 0 ∨ n = false)

/-- the f64 sum of two such values: one rounding of the exact sum, `+inf` on overflow, `-0.0` only for `-0.0 + -0.0` -/
theorem fp_add_nonneg {a b : Rat} {na nb : Bool} (ha : 0 ≤ a) (hb : 0 ≤ b) (hna : a = 0 ∨ na = false)
    (hnb : b = 0 ∨ nb = false) :
    (fpArith sinO).add (.fin na a) (.fin nb b) =
      if rv f64 (a + b) < pow2 (f64.emax + 1) then .fin (na && nb && decide (a + b = 0)) (rv f64 (a + b)) else .inf false := by
  show add f64 (.fin na a) (.fin nb b) = _
  rw [add_fin, sval_of_zero_or_pos hna, sval_of_zero_or_pos hnb, round_of_nonneg f64 _ (add_nonneg ha hb)]

/-- **float wrap**: for a phase `x` and a step `y`, `(x + y) % w` in f64 is again such a value, in [0, w) — unless the
    rounded sum overflowed to +inf, in which case it is NaN -/
theorem fp_wrap_range {x y : FP} {a b : Rat} (hx : NonnegFin x a) (hy : NonnegFin y b) (w : Nat) (hw : 0 < w) (hw2 : w ≤ 2 ^ 52) :
    (∃ q, NonnegFin ((fpArith sinO).rem ((fpArith sinO).add x y) ((fpArith sinO).ofNat w)) q ∧ q < w) ∨
    ((fpArith sinO).add x y = .inf false ∧ (fpArith sinO).rem ((fpArith sinO).add x y) ((fpArith sinO).ofNat w) = .nan) := by
  obtain ⟨na, rfl, ha, hna⟩ := hx
  obtain ⟨nb, rfl, hb, hnb⟩ := hy
  rw [fp_ofNat sinO w hw2, fp_add_nonneg sinO ha hb hna hnb]
  have hwq : (0 : Rat) < w := Nat.cast_pos.mpr hw
  split_ifs with hlt
  · have := ratRem_range (rv_nonneg f64 (add_nonneg ha hb)) hwq
    refine Or.inl ⟨_, ⟨_, if_neg hwq.ne', this.1, ?_⟩, this.2⟩
    by_cases h0 : a + b = 0
    · left; rw [h0, rv_zero, ratRem_eq le_rfl hwq, zero_div, Int.fract_zero, mul_zero]
    · right; rw [decide_eq_false h0, Bool.and_false]
  · exact Or.inr ⟨rfl, rfl⟩

theorem fp_sum_no_overflow {x y : FP} {a b : Rat} (hx : NonnegFin x a) (hy : NonnegFin y b)
    (haw : a < pow2 52) (hbb : b ≤ pow2 1023 - pow2 52) : (fpArith sinO).add x y ≠ .inf false := by
  obtain ⟨na, rfl, ha, hna⟩ := hx
  obtain ⟨nb, rfl, hb, hnb⟩ := hy
  have h := rv_le_pow2_of_emin_le f64 (by decide) (add_nonneg ha hb) (k := 1023) (by decide) (by linarith)
  rw [fp_add_nonneg sinO ha hb hna hnb, if_pos (lt_of_le_of_lt h (pow2_lt (by decide)))]
  exact fun h => FP.noConfusion h

/-- a phase step the f64 code can digest: finite, non-negative, not in the top binade (≤ 2^1023 − 2^52) -/
def GoodStep (s : FP) : Prop := ∃ n b, s = .fin n b ∧ 0 ≤ b ∧ (b = 0 ∨ n = false) ∧ b ≤ pow2 1023 - pow2 52

/-- every `hz / rate` the source will compute is finite and non-negative — *"the quotient is finite"*, the
    hypothesis whose failure is the known finding C17-step-overflow -/
def FpSrcOK (A : Arith FP) : StepSrc FP → Prop
  | .const s => GoodStep s
  | .hz rate fs _ => GoodStep (A.div (A.ofNat 0) rate) ∧ ∀ f ∈ fs, GoodStep (A.div f rate)

theorem fp_step_ok (A : Arith FP) {s : StepSrc FP} (h : FpSrcOK A s) : GoodStep (s.step A).1 ∧ FpSrcOK A (s.step A).2 := by
  cases s with
  | const s => exact ⟨h, h⟩
  | hz rate fs n =>
    cases fs with
    | nil => exact ⟨h.1, h.1, h.2⟩
    | cons f fs => exact ⟨h.2 f (List.mem_cons_self ..), h.1, fun g hg => h.2 g (List.mem_cons_of_mem _ hg)⟩

def FpInv (A : Arith FP) (w : Nat) (p : Phase FP) : Prop := (∃ a, NonnegFin p.next a ∧ a < w) ∧ FpSrcOK A p.src

theorem fp_nextPhaseWrappedTo_inv (w : Nat) (hw : 0 < w) (hw2 : w ≤ 2 ^ 52) {p : Phase FP}
    (h : FpInv (fpArith sinO) w p) :
    FpInv (fpArith sinO) w (nextPhaseWrappedTo (fpArith sinO) p ((fpArith sinO).ofNat w)).2 := by
  obtain ⟨⟨a, hp, h1⟩, hs⟩ := h
  obtain ⟨⟨m, b, hb, hb0, hbz, hbb⟩, hs2⟩ := fp_step_ok (fpArith sinO) hs
  have hy : NonnegFin (p.src.step (fpArith sinO)).1 b := ⟨m, hb, hb0, hbz⟩
  exact ⟨(fp_wrap_range sinO hp hy w hw hw2).resolve_right
    fun h => fp_sum_no_overflow sinO hp hy (h1.trans_le (natCast_le_pow2 hw2)) hbb h.1, hs2⟩

theorem fp_phase_inv (w : Nat) (hw : 0 < w) {src : StepSrc FP} (h : FpSrcOK (fpArith sinO) src) :
    FpInv (fpArith sinO) w (phase (fpArith sinO) src) :=
  ⟨⟨_, ⟨false, fp_ofNat sinO 0 (by decide), Nat.cast_nonneg _, Or.inr rfl⟩, by exact_mod_cast hw⟩, h⟩

theorem fp_osc_frames (w : Nat) (hw : 0 < w) (hw2 : w ≤ 2 ^ 52) (wave : FP → FP) {P : FP → Prop}
    (hP : ∀ x a, NonnegFin x a → a < w → P (wave x))
    {src : StepSrc FP} (hs : FpSrcOK (fpArith sinO) src) (k : Nat) :
    ∀ y ∈ (run (oscStep (fpArith sinO) wave ((fpArith sinO).ofNat w)) k (phase (fpArith sinO) src)).1, P y :=
  (run_inv (oscStep (fpArith sinO) wave ((fpArith sinO).ofNat w)) (FpInv (fpArith sinO) w) P
    (fun p h => ⟨h.1.elim fun a ha => hP p.next a ha.1 ha.2, fp_nextPhaseWrappedTo_inv sinO w hw hw2 h⟩)
    k _ (fp_phase_inv sinO w hw hs)).1

/-- **f64 saw**: for every finite phase in [0, 1), `phase * -2.0 + 1.0` evaluated in f64 is finite and within [−1, 1]:
    the product is a rounded value in [−2, 0], so the exact sum lies in [−1, 1] and rounding keeps it there -/
theorem fp_saw_range {x : FP} {a : Rat} (hx : NonnegFin x a) (h1 : a < 1) :
    ∃ m q, sawWave (fpArith sinO) x = .fin m q ∧ 0 ≤ q ∧ q ≤ 1 := by
  obtain ⟨n, rfl, h0, hz⟩ := hx
  have e2 : (fpArith sinO).ofNat Osc.sawMul = .fin false 2 := by
    rw [fp_ofNat sinO _ (by decide)]; simp [Osc.sawMul]
  have e1 : (fpArith sinO).ofNat Osc.sawAdd = .fin false 1 := by
    rw [fp_ofNat sinO _ (by decide)]; simp [Osc.sawAdd]
  unfold sawWave
  rw [e2, e1]
  show ∃ m q, add f64 (mul f64 (.fin n a) (.fin true 2)) (.fin false 1) = .fin m q ∧ _
  have ha2 : 0 ≤ a * 2 := by linarith
  have p21 : pow2 1 = 2 := by rw [pow2_eq]; norm_num
  have hr := rv_le_pow2_of_emin_le f64 (by decide) ha2 (k := 1) (by decide) (by rw [p21]; linarith)
  have hr0 := rv_nonneg f64 ha2
  rw [mul_fin f64 n true ha2, rsm_eq, if_pos (lt_of_le_of_lt hr (pow2_lt (by decide))), add_fin]
  have hs : sval (n != true) (rv f64 (a * 2)) = -rv f64 (a * 2) := by
    rcases hz with rfl | rfl
    · rw [zero_mul, rv_zero, neg_zero]; cases n <;> rfl
    · rfl
  have hx : |sval (n != true) (rv f64 (a * 2)) + sval false 1| ≤ pow2 0 := by
    rw [hs, show sval false (1 : Rat) = 1 from rfl, pow2_zero, abs_le]; constructor <;> linarith
  exact ⟨_, _, round_of_abs_le_pow2 f64 (by decide) _ (by decide) (by decide) hx, rv_nonneg f64 (abs_nonneg _),
    (rv_le_pow2_of_emin_le f64 (by decide) (abs_nonneg _) (by decide) hx).trans_eq pow2_zero⟩

theorem fp_square_values (ph : FP) :
    squareWave (fpArith sinO) ph = .fin false 1 ∨ squareWave (fpArith sinO) ph = .fin true 1 := by
  have e1 : (fpArith sinO).ofNat 1 = .fin false 1 := by
    rw [fp_ofNat sinO _ (by decide)]; simp
  unfold squareWave
  split
  · left; exact e1
  · right; rw [e1]; rfl

end Dasp.Osc
