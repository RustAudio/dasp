import Dasp.Model.Envelope
import Dasp.Lemmas.FieldArith
import Mathlib.Algebra.Order.Field.Basic
import Mathlib.Algebra.Order.AbsoluteValue.Basic
import Mathlib.Tactic.Linarith
import Mathlib.Tactic.Ring

/-!
# Exact-arithmetic facts about the rectifier and envelope models
(`Model/Peak.lean`, `Model/Envelope.lean`), at any linearly ordered field via `Dasp.Exact.fieldArith`
(gains and samples in the same field, `gain.to_sample()` = identity).  The rectifier closures are described once, over
any linear order; the integer formats and the fields are instances.
-/

namespace Dasp.Envelope
open Dasp Dasp.Exact

variable {K : Type} [Field K] [LinearOrder K] [IsStrictOrderedRing K]

/-- the envelope after `k` frames whose detected value is the constant `d` -/
def iter (a r d : K) : Nat → K → K
  | 0, l => l
  | k + 1, l => envSample id a r (iter a r d k l) d

theorem calcGain_eq (expO : K → K) (x : K) : calcGain expO x = if x = 0 then 0 else expO (-1 / x) := by
  simp only [calcGain, Arith.beq, Arith.zero, Arith.div, Arith.neg, Arith.one, decide_eq_true_eq]

variable {δ φ : Type}

theorem Detector.run_append {γ α : Type} [Arith γ] [Arith α] (expO : γ → γ) (ofGain : γ → α)
    (detect : δ → φ → δ × List α) (ops1 ops2 : List (Op γ φ)) :
    ∀ D : Detector γ α δ,
      (D.run expO ofGain detect (ops1 ++ ops2)).2 =
        (D.run expO ofGain detect ops1).2 ++ ((D.run expO ofGain detect ops1).1.run expO ofGain detect ops2).2 := by
  induction ops1 with
  | nil => intro D; simp [Detector.run]
  | cons op ops ih => intro D; simp [Detector.run, ih]

theorem Detector.run_length {γ α : Type} [Arith γ] [Arith α] (expO : γ → γ) (ofGain : γ → α)
    (detect : δ → φ → δ × List α) (ops : List (Op γ φ)) :
    ∀ D : Detector γ α δ, (D.run expO ofGain detect ops).2.length = ops.length := by
  induction ops with
  | nil => intro D; simp [Detector.run]
  | cons op ops ih => intro D; simp [Detector.run, ih]

end Dasp.Envelope

namespace Dasp.Peak

/-- "every sample whose negated amplitude is representable": whenever negating the signed amplitude succeeds, full-wave
    rectification returns its absolute value — for every signed companion format that is an ordered group -/
theorem fullWave_abs {α σ : Type} [AddCommGroup σ] [LinearOrder σ] [IsOrderedAddMonoid σ] (toSigned : α → σ)
    (negS : σ → Option σ) (s : α) (h : toSigned s < 0 → negS (toSigned s) = some (-toSigned s)) :
    fullWave toSigned (fun a b => decide (a < b)) 0 negS s = some |toSigned s| := by
  simp only [fullWave, decide_eq_true_eq]
  split
  · rename_i hneg; rw [h hneg, abs_of_neg hneg]
  · rename_i hneg; rw [abs_of_nonneg (not_lt.mp hneg)]

theorem positiveHalfWave_max {α : Type} [LinearOrder α] (e s : α) :
    positiveHalfWave (fun a b => decide (a < b)) e s = max s e := by
  simp only [positiveHalfWave, decide_eq_true_eq]
  split
  · rename_i h; rw [max_eq_right (le_of_lt h)]
  · rename_i h; rw [max_eq_left (not_lt.mp h)]

theorem negativeHalfWave_min {α : Type} [LinearOrder α] (e s : α) :
    negativeHalfWave (fun a b => decide (a < b)) e s = min s e := by
  simp only [negativeHalfWave, decide_eq_true_eq]
  split
  · rename_i h; rw [min_eq_right (le_of_lt h)]
  · rename_i h; rw [min_eq_left (not_lt.mp h)]

end Dasp.Peak
