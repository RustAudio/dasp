import Mathlib.Algebra.Order.Field.Basic
import Mathlib.Algebra.Order.AbsoluteValue.Basic
import Mathlib.Tactic.Linarith
import Mathlib.Tactic.Ring
/-!
# Approximations `|a' − a| ≤ α` and how they compose

The rounding-free half of every forward error analysis in the development (running RMS, envelope step, simplex
noise): the magnitude of an approximation, the error of a sum, difference and product of two approximations, and
the triangle through an unrounded intermediate.  What a particular rounding contributes is stated beside its
predicate (`RndOK`, `AbsRnd` in `Lemmas/Rounding.lean`; the bookkeeping `Apx` in `Lemmas/SimplexRounding.lean`).
-/
namespace Dasp.Approx
variable {K : Type} [Field K] [LinearOrder K] [IsStrictOrderedRing K] {a a' b b' A B α β x y z δ ε : K}

theorem abs_le_of_close (hA : |a| ≤ A) (ha : |a' - a| ≤ α) : |a'| ≤ A + α := by
  have := abs_add_le (a' - a) a
  rw [sub_add_cancel] at this; linarith

theorem close_add (ha : |a' - a| ≤ α) (hb : |b' - b| ≤ β) : |a' + b' - (a + b)| ≤ α + β := by
  rw [add_sub_add_comm]; exact le_trans (abs_add_le _ _) (add_le_add ha hb)

theorem close_sub (ha : |a' - a| ≤ α) (hb : |b' - b| ≤ β) : |a' - b' - (a - b)| ≤ α + β := by
  rw [sub_sub_sub_comm]; exact le_trans (abs_sub _ _) (add_le_add ha hb)

theorem abs_mul_le_mul (hA : |a| ≤ A) (hB : |b| ≤ B) : |a * b| ≤ A * B := by
  rw [abs_mul]; exact mul_le_mul hA hB (abs_nonneg _) (le_trans (abs_nonneg _) hA)

theorem close_mul (hA : |a| ≤ A) (hB : |b| ≤ B) (ha : |a' - a| ≤ α) (hb : |b' - b| ≤ β) :
    |a' * b' - a * b| ≤ A * β + B * α + α * β := by
  have e : a' * b' - a * b = a * (b' - b) + b * (a' - a) + (a' - a) * (b' - b) := by ring
  rw [e]
  exact le_trans (abs_add_three _ _ _)
    (add_le_add (add_le_add (abs_mul_le_mul hA hb) (abs_mul_le_mul hB ha)) (abs_mul_le_mul ha hb))

/-- the triangle through `y`; in the analyses `y` is the unrounded result and `z` its rounding -/
theorem close_trans (h : |y - x| ≤ δ) (hz : |z - y| ≤ ε) : |z - x| ≤ δ + ε :=
  le_trans (abs_sub_le _ y _) (by linarith)

end Dasp.Approx
