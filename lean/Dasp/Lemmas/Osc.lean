import Dasp.Model.Osc
import Dasp.Lemmas.Trunc
import Mathlib.Algebra.Order.Floor.Ring
import Mathlib.Data.Rat.Floor
import Mathlib.Tactic.Linarith
import Mathlib.Tactic.Ring
import Mathlib.Tactic.NormNum

/-! Lemmas about the oscillator model `Model/Osc.lean`: what holds of `run` for every step function, then the
    exact-arithmetic instance `ratArith sinO` (and a few facts that hold for every arithmetic).  Every oscillator
    (`nextPhase`, `sineNext`, `sawNext`, `squareNext`, `simplexNext`) unfolds to `oscStep A wave w` (`wave = id` for
    `nextPhase`), one phase update wrapped at the model's own constant `A.ofNat Osc.phaseWrap` /
    `A.ofNat Osc.simplexWrap`; the lemmas are stated on `oscStep` and meet the oscillators by unfolding. -/
namespace Dasp.Osc
open Dasp.Gen

section run
variable {α σ : Type}

theorem run_succ (f : σ → α × σ) (n : Nat) (s : σ) :
    run f (n + 1) s = ((f s).1 :: (run f n (f s).2).1, (run f n (f s).2).2) := rfl

theorem run_length (f : σ → α × σ) : ∀ (n : Nat) (s : σ), (run f n s).1.length = n
  | 0, _ => rfl
  | n + 1, s => congrArg Nat.succ (run_length f n (f s).2)

theorem run_inv (f : σ → α × σ) (Inv : σ → Prop) (P : α → Prop) (h : ∀ s, Inv s → P (f s).1 ∧ Inv (f s).2) :
    ∀ (n : Nat) (s : σ), Inv s → (∀ y ∈ (run f n s).1, P y) ∧ Inv (run f n s).2
  | 0, _, hs => ⟨fun _ hy => (nomatch hy), hs⟩
  | n + 1, s, hs => by
    obtain ⟨i1, i2⟩ := run_inv f Inv P h n _ (h s hs).2
    exact ⟨List.forall_mem_cons.mpr ⟨(h s hs).1, i1⟩, i2⟩

theorem run_add (f : σ → α × σ) (m : Nat) : ∀ (k : Nat) (s : σ),
    run f (k + m) s = ((run f k s).1 ++ (run f m (run f k s).2).1, (run f m (run f k s).2).2)
  | 0, s => by rw [Nat.zero_add]; rfl
  | k + 1, s => by rw [Nat.add_right_comm, run_succ, run_add f m k, run_succ]; rfl

theorem run_eq_map (f : σ → α × σ) : ∀ (n : Nat) (s : σ),
    (run f n s).1 = (List.range n).map (fun k => (f (run f k s).2).1)
  | 0, _ => rfl
  | n + 1, s => by
    rw [run_succ, List.range_succ_eq_map, List.map_cons, List.map_map, run_eq_map f n]; rfl

end run

/-- `ratTrunc` unfolds to `truncQ` -/
theorem ratTrunc_of_nonneg {q : Rat} (h : 0 ≤ q) : ratTrunc q = ⌊q⌋ := truncQ_nonneg h

theorem ratRem_eq {x r : Rat} (hx : 0 ≤ x) (hr : 0 < r) : ratRem x r = r * Int.fract (x / r) := by
  unfold ratRem Int.fract
  rw [ratTrunc_of_nonneg (div_nonneg hx hr.le), mul_sub, mul_div_cancel₀ _ hr.ne']

theorem ratRem_range {x r : Rat} (hx : 0 ≤ x) (hr : 0 < r) : 0 ≤ ratRem x r ∧ ratRem x r < r := by
  rw [ratRem_eq hx hr]
  exact ⟨mul_nonneg hr.le (Int.fract_nonneg _), mul_lt_of_lt_one_right hr (Int.fract_lt_one _)⟩

theorem ratRem_one {x : Rat} (hx : 0 ≤ x) : ratRem x 1 = Int.fract x := by
  rw [ratRem_eq hx one_pos, div_one, one_mul]

/-- the stated domain: rate > 0, every frequency finite (a rational) and ≥ 0 -/
def SrcOK : StepSrc Rat → Prop
  | .const s => 0 ≤ s
  | .hz rate frames _ => 0 < rate ∧ ∀ f ∈ frames, 0 ≤ f

variable (sinO : Rat → Rat)

theorem constHz_ok {rate hz : Rat} (hr : 0 < rate) (hh : 0 ≤ hz) : SrcOK (constHz (ratArith sinO) rate hz) :=
  div_nonneg hh hr.le

theorem varHz_ok {rate : Rat} {fs : List Rat} (hr : 0 < rate) (hh : ∀ f ∈ fs, 0 ≤ f) : SrcOK (varHz rate fs) := ⟨hr, hh⟩

theorem step_ok {s : StepSrc Rat} (h : SrcOK s) : 0 ≤ (s.step (ratArith sinO)).1 ∧ SrcOK (s.step (ratArith sinO)).2 := by
  cases s with
  | const s => exact ⟨h, h⟩
  | hz rate fs n =>
    cases fs with
    | nil =>
      refine ⟨?_, h.1, h.2⟩
      show 0 ≤ ((0 : Nat) : Rat) / rate
      simp
    | cons f fs =>
      exact ⟨div_nonneg (h.2 f (List.mem_cons_self ..)) h.1.le, h.1, fun g hg => h.2 g (List.mem_cons_of_mem _ hg)⟩

def PhInv (w : Rat) (p : Phase Rat) : Prop := 0 ≤ p.next ∧ p.next < w ∧ SrcOK p.src

theorem phase_next (src : StepSrc Rat) : (phase (ratArith sinO) src).next = 0 := Nat.cast_zero

theorem phase_inv {w : Rat} (hw : 0 < w) {src : StepSrc Rat} (h : SrcOK src) : PhInv w (phase (ratArith sinO) src) :=
  ⟨(phase_next sinO src).ge, (phase_next sinO src).trans_lt hw, h⟩

theorem nextPhaseWrappedTo_fst (A : Arith α) (p : Phase α) (w : α) : (nextPhaseWrappedTo A p w).1 = p.next := rfl

theorem nextPhaseWrappedTo_one {p : Phase Rat} (h0 : 0 ≤ p.next) (hs : SrcOK p.src) :
    (nextPhaseWrappedTo (ratArith sinO) p 1).2.next = Int.fract (p.next + (p.src.step (ratArith sinO)).1) :=
  ratRem_one (add_nonneg h0 (step_ok sinO hs).1)

theorem nextPhaseWrappedTo_inv {w : Rat} (hw : 0 < w) {p : Phase Rat} (h : PhInv w p) :
    PhInv w (nextPhaseWrappedTo (ratArith sinO) p w).2 := by
  obtain ⟨h0, _, hs⟩ := h
  obtain ⟨hs1, hs2⟩ := step_ok sinO hs
  have := ratRem_range (add_nonneg h0 hs1) hw
  exact ⟨this.1, this.2, hs2⟩

def oscStep (A : Arith α) (wave : α → α) (w : α) (p : Phase α) : α × Phase α :=
  let r := nextPhaseWrappedTo A p w; (wave r.1, r.2)

/-- every frame of an oscillator run of any length from `signal::phase` is `wave` of a phase in [0, w), for the wrap
    `w = W as f64` (`W` is `Osc.phaseWrap` or `Osc.simplexWrap`), and so has every property `P` that `wave` has there -/
theorem osc_frames (wave : Rat → Rat) (W : Nat) (hW : 0 < W) {P : Rat → Prop}
    (hP : ∀ ph : Rat, 0 ≤ ph → ph < W → P (wave ph)) {src : StepSrc Rat} (hs : SrcOK src) (n : Nat) :
    ∀ y ∈ (run (oscStep (ratArith sinO) wave (W : Rat)) n (phase (ratArith sinO) src)).1, P y :=
  have hw : (0 : Rat) < W := Nat.cast_pos.mpr hW
  (run_inv (oscStep (ratArith sinO) wave W) (PhInv W) P
    (fun _ h => ⟨hP _ h.1 h.2.1, nextPhaseWrappedTo_inv sinO hw h⟩) n _ (phase_inv sinO hw hs)).1

theorem sawWave_eq (ph : Rat) : sawWave (ratArith sinO) ph = 1 - 2 * ph := by
  show ph * -((2 : Nat) : Rat) + ((1 : Nat) : Rat) = 1 - 2 * ph
  push_cast; ring

theorem squareWave_eq (ph : Rat) : squareWave (ratArith sinO) ph = if ph < 1 / 2 then 1 else -1 := by
  have e : (ratArith sinO).ofDec Osc.squareThrNum Osc.squareThrExp = 1 / 2 := by
    show ((Osc.squareThrNum : Nat) : Rat) / ((10 ^ Osc.squareThrExp : Nat) : Rat) = 1 / 2
    norm_num [Osc.squareThrNum, Osc.squareThrExp]
  unfold squareWave
  rw [e]
  show (if decide (ph < 1 / 2) = true then ((1 : Nat) : Rat) else -((1 : Nat) : Rat)) = _
  simp only [decide_eq_true_eq, Nat.cast_one]

theorem sineWave_eq (ph : Rat) : sineWave (ratArith sinO) ph = sinO ((ratArith sinO).twoPi * ph) := rfl

/-- sum of the first `k` phase steps a source will hand out: `k·step` for `ConstHz`,
    `Σ_{i<k} hz_i / rate` for `Hz` (frames beyond the end of the list count as 0) -/
def stepSum : StepSrc Rat → Nat → Rat
  | .const s, k => (k : Rat) * s
  | .hz rate fs _, k => ((fs.take k).map (· / rate)).sum

theorem stepSum_zero (s : StepSrc Rat) : stepSum s 0 = 0 := by
  cases s <;> simp [stepSum]

theorem stepSum_succ (s : StepSrc Rat) (k : Nat) :
    stepSum s (k + 1) = (s.step (ratArith sinO)).1 + stepSum (s.step (ratArith sinO)).2 k := by
  cases s with
  | const s => simp only [stepSum, StepSrc.step]; push_cast; ring
  | hz rate fs n =>
    cases fs with
    | nil =>
      show stepSum (.hz rate [] n) (k + 1) = ((0 : Nat) : Rat) / rate + stepSum (.hz rate [] (n + 1)) k
      simp [stepSum]
    | cons f fs =>
      show stepSum (.hz rate (f :: fs) n) (k + 1) = f / rate + stepSum (.hz rate fs (n + 1)) k
      simp [stepSum]

theorem fract_fract_add (a b : Rat) : Int.fract (Int.fract a + b) = Int.fract (a + b) := by
  have : Int.fract a + b = a + b - ((⌊a⌋ : Int) : Rat) := by unfold Int.fract; ring
  rw [this, Int.fract_sub_intCast]

theorem run_oscStep_phase (wave : Rat → Rat) : ∀ (k : Nat) (p : Phase Rat), 0 ≤ p.next → p.next < 1 → SrcOK p.src →
    (run (oscStep (ratArith sinO) wave 1) k p).2.next = Int.fract (p.next + stepSum p.src k)
  | 0, p, h0, h1, _ => by rw [stepSum_zero, add_zero, Int.fract_eq_self.mpr ⟨h0, h1⟩]; rfl
  | k + 1, p, h0, _, hs => by
    have hn := nextPhaseWrappedTo_one sinO h0 hs
    rw [stepSum_succ sinO, ← add_assoc, ← fract_fract_add, ← hn]
    exact run_oscStep_phase wave k _ (hn ▸ Int.fract_nonneg _) (hn ▸ Int.fract_lt_one _) (step_ok sinO hs).2

theorem run_oscStep_closed (wave : Rat → Rat) (n : Nat) {src : StepSrc Rat} (hs : SrcOK src) :
    (run (oscStep (ratArith sinO) wave ((Osc.phaseWrap : Nat) : Rat)) n (phase (ratArith sinO) src)).1 =
      (List.range n).map (fun k => wave (Int.fract (stepSum src k))) := by
  have hz := phase_next sinO src
  rw [show ((Osc.phaseWrap : Nat) : Rat) = 1 from Nat.cast_one, run_eq_map]
  refine List.map_congr_left fun k _ => congrArg wave
    ((run_oscStep_phase sinO wave k _ hz.ge (hz.trans_lt one_pos) hs).trans ?_)
  rw [hz, zero_add]; rfl

/-! ## one frequency frame per output frame (any arithmetic, native f64 included) -/

/-- frequency frames not yet consumed -/
def StepSrc.remaining : StepSrc α → List α
  | .const _ => []
  | .hz _ fs _ => fs

/-- `f` advances its phase by exactly one `Step::step` call per frame (every oscillator does, by `fun _ => rfl`) -/
def OneStep (A : Arith α) (f : Phase α → α × Phase α) : Prop := ∀ p, (f p).2.src = (p.src.step A).2

/-- `n` frames of such an `f` leave of an `Hz` source the same rate, the frequency frames less the first `n`, and `n`
    more pulls on the count -/
theorem run_src_hz (A : Arith α) (f : Phase α → α × Phase α) (hf : OneStep A f) (rate : α) :
    ∀ (n : Nat) (p : Phase α) (fs : List α) (m : Nat), p.src = .hz rate fs m →
      (run f n p).2.src = .hz rate (fs.drop n) (m + n)
  | 0, _, _, _, h => h
  | n + 1, p, fs, m, h => by
    have hp : (f p).2.src = .hz rate (fs.drop 1) (m + 1) := by rw [hf p, h]; cases fs <;> rfl
    rw [run_succ, run_src_hz A f hf rate n _ _ _ hp, List.drop_drop, Nat.add_assoc, Nat.add_comm 1 n]

theorem run_noise_state (A : Arith α) : ∀ (n s : Nat), (run (noiseNext A) n (noise s)).2 = noise (s + n)
  | 0, _ => rfl
  | n + 1, s => by
    show (run (noiseNext A) n ⟨(s % M64 + Osc.seedInc) % M64⟩).2 = _
    rw [Nat.mod_add_mod]
    exact (run_noise_state A n (s + 1)).trans (by rw [Nat.add_right_comm]; rfl)

/-- the integer gradient `grad` multiplies by: `±(1 + (h & 7))` -/
def gradCoef (hash : Nat) : Rat :=
  if ((hash &&& Osc.gradMask) &&& Osc.gradSign != 0) = true
  then -(((1 + ((hash &&& Osc.gradMask) &&& Osc.gradMag) : Nat) : Rat))
  else (((1 + ((hash &&& Osc.gradMask) &&& Osc.gradMag) : Nat) : Rat))

theorem gradMag_le (hash : Nat) : (hash &&& Osc.gradMask) &&& Osc.gradMag ≤ 7 := Nat.and_le_right

theorem gradCoef_abs (hash : Nat) : |gradCoef hash| ≤ 8 := by
  have h : ((1 + ((hash &&& Osc.gradMask) &&& Osc.gradMag) : Nat) : Rat) ≤ 8 := by
    exact_mod_cast Nat.add_le_add_left (gradMag_le hash) 1
  unfold gradCoef
  split
  · rwa [abs_neg, Nat.abs_cast]
  · rwa [Nat.abs_cast]

/-- `grad(hash, x)` in any arithmetic over the rationals that negates exactly and forms the sums `1 + k`, `k ≤ 7`,
    exactly: the gradient `gradCoef hash` times `x`, in that arithmetic's multiplication -/
theorem grad_eq_mul (A : Arith Rat) (hneg : ∀ q, A.neg q = -q)
    (hadd : ∀ k : Nat, k ≤ 7 → A.add (A.ofNat 1) (A.ofInt (k : Int)) = ((1 + k : Nat) : Rat)) (hash : Nat) (x : Rat) :
    grad A hash x = A.mul (gradCoef hash) x := by
  unfold grad gradCoef
  simp only [hadd _ (gradMag_le hash), hneg]

theorem grad_exact (hash : Nat) (x : Rat) : grad (ratArith sinO) hash x = gradCoef hash * x :=
  grad_eq_mul _ (fun _ => rfl) (fun k _ => by show ((1 : Nat) : Rat) + ((k : Int) : Rat) = _; push_cast; rfl) hash x

theorem toI64_floor {x : Rat} (h0 : 0 ≤ x) (h1 : x < 65536) :
    (ratArith sinO).toI64 ((ratArith sinO).floor x) = ⌊x⌋ := by
  show clampI64 (ratTrunc ((x.floor : Int) : Rat)) = ⌊x⌋
  have hf0 : 0 ≤ ⌊x⌋ := Int.floor_nonneg.mpr h0
  have hf1 : ⌊x⌋ < 65536 := by
    have : ((⌊x⌋ : Int) : Rat) < 65536 := lt_of_le_of_lt (Int.floor_le x) h1
    exact_mod_cast this
  rw [show ratTrunc ((x.floor : Int) : Rat) = ⌊x⌋ from truncQ_int _]; unfold clampI64
  rw [if_neg (by omega), if_neg (by omega)]

/-- one corner's contribution `((1 − x²)²)² · grad(hash, x)`, as `simplex_noise_1d` computes it -/
def corner (A : Arith α) (hash : Nat) (x : α) : α :=
  let t := A.sub (A.ofNat 1) (A.mul x x)
  let t := A.mul t t
  A.mul (A.mul t t) (grad A hash x)

/-- `simplex_noise_1d` once the lattice cell `i = ⌊x⌋` is known -/
def simplexAt (A : Arith α) (i : Int) (x : α) : α :=
  let x0 := A.sub x (A.ofInt i)
  A.mul (A.ofDec Osc.scaleNum Osc.scaleExp)
    (A.add (corner A (permHash i) x0) (corner A (permHash (i + 1)) (A.sub x0 (A.ofNat 1))))

theorem simplexNoise1d_eq (A : Arith α) (x : α) : simplexNoise1d A x = simplexAt A (A.toI64 (A.floor x)) x := rfl

theorem corner_exact (hash : Nat) (x : Rat) :
    corner (ratArith sinO) hash x = (1 - x ^ 2) ^ 4 * (gradCoef hash * x) := by
  rw [← grad_exact sinO]
  show (1 - x * x) * (1 - x * x) * ((1 - x * x) * (1 - x * x)) * grad (ratArith sinO) hash x = _
  ring

theorem ofDec_scale : (ratArith sinO).ofDec Osc.scaleNum Osc.scaleExp = 395 / 1000 := by
  show ((Osc.scaleNum : Nat) : Rat) / ((10 ^ Osc.scaleExp : Nat) : Rat) = _
  norm_num [Osc.scaleNum, Osc.scaleExp]

/-- `simplex_noise_1d(x)` in exact arithmetic, for every phase the oscillator can hand it: `0.395` times the two corner
    polynomials at `frac x` and `frac x − 1`, with the gradients hashed from `⌊x⌋` and `⌊x⌋ + 1` -/
theorem simplexNoise1d_exact {x : Rat} (h0 : 0 ≤ x) (h1 : x < 65536) :
    simplexNoise1d (ratArith sinO) x = 395 / 1000 *
      ((1 - Int.fract x ^ 2) ^ 4 * (gradCoef (permHash ⌊x⌋) * Int.fract x) +
        (1 - (Int.fract x - 1) ^ 2) ^ 4 * (gradCoef (permHash (⌊x⌋ + 1)) * (Int.fract x - 1))) := by
  rw [simplexNoise1d_eq, toI64_floor sinO h0 h1]
  simp only [simplexAt, ofDec_scale, corner_exact]
  rfl

end Dasp.Osc
