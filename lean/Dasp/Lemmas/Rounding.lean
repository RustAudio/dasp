import Dasp.Lemmas.Approx
/-!
# What the error analyses assume of a rounding function

Three predicates on `rnd : K → K`, each with the lemmas through which the analyses use it:
* `RndOK rnd u η` — relative error `u` plus absolute error `η`, non-negative values stay non-negative (running RMS, C11;
  the overshoot of the envelope, C19);
* `RndMono rnd` — monotone, fixes 0, idempotent (envelope step C19, linear interpolation C08);
* `AbsRnd rnd e` — absolute error `e` on the range `|y| ≤ 32` (simplex noise, C17).

The rounding `rs` of the executable soft-float satisfies all three: `rs_rndOK` (`Lemmas/RoundRel.lean`, restated as
`Props.C11.softfloat_rounding_ok`), `Props.C19.softfloat_env_rounding`, `Props.C17.softfloat_absrnd` (from `rs_rndOK` by
`RndOK.absRnd`).
-/
set_option linter.unusedSectionVars false  -- `RndMono` and its first lemmas use the order on `K` only

namespace Dasp.Rms.Rounding

variable {K : Type} [Field K] [LinearOrder K] [IsStrictOrderedRing K]

/-- what is assumed of the rounding function -/
structure RndOK (rnd : K → K) (u η : K) : Prop where
  u0 : 0 ≤ u
  u1 : u ≤ 1
  η0 : 0 ≤ η
  err : ∀ x, |rnd x - x| ≤ u * |x| + η
  nonneg : ∀ x, 0 ≤ x → 0 ≤ rnd x

section one_rounding
variable {rnd : K → K} {u η : K}

theorem RndOK.err_le (ok : RndOK rnd u η) {y Y : K} (h : |y| ≤ Y) : |rnd y - y| ≤ u * Y + η :=
  (ok.err y).trans (by have := mul_le_mul_of_nonneg_left h ok.u0; linarith)

theorem RndOK.close (ok : RndOK rnd u η) {x y ε : K} (h : |y - x| ≤ ε) :
    |rnd y - x| ≤ (1 + u) * ε + u * |x| + η :=
  (Approx.close_trans h (ok.err_le (Approx.abs_le_of_close le_rfl h))).trans_eq (by ring)

theorem RndOK.close_of_le (ok : RndOK rnd u η) {x y ε X : K} (h : |y - x| ≤ ε) (hX : |x| ≤ X) :
    |rnd y - x| ≤ (1 + u) * ε + u * X + η :=
  (ok.close h).trans (by have := mul_le_mul_of_nonneg_left hX ok.u0; linarith)

theorem RndOK.le_of_le (ok : RndOK rnd u η) {x M : K} (h0 : 0 ≤ x) (hM : x ≤ M) :
    rnd x ≤ (1 + u) * M + η ∧ |rnd x - x| ≤ u * M + η := by
  have h := ok.err_le (abs_le.mpr ⟨by linarith, hM⟩ : |x| ≤ M)
  exact ⟨by have := (abs_le.mp h).2; linarith, h⟩

end one_rounding

end Dasp.Rms.Rounding

namespace Dasp.Envelope.Rounding

variable {K : Type} [Field K] [LinearOrder K] [IsStrictOrderedRing K]

/-- what the "stays between" results assume of a rounding (envelope step C19, linear interpolation C08): rounding to
    nearest onto any grid that contains 0 has the three -/
structure RndMono (rnd : K → K) : Prop where
  mono : ∀ x y, x ≤ y → rnd x ≤ rnd y
  zero : rnd 0 = 0
  idem : ∀ x, rnd (rnd x) = rnd x

section
variable {rnd : K → K}

theorem RndMono.le_rnd (ok : RndMono rnd) {a x : K} (ha : rnd a = a) (h : a ≤ x) : a ≤ rnd x :=
  ha ▸ ok.mono _ _ h

theorem RndMono.rnd_le (ok : RndMono rnd) {b x : K} (hb : rnd b = b) (h : x ≤ b) : rnd x ≤ b :=
  hb ▸ ok.mono _ _ h

theorem RndMono.scale_nonneg (ok : RndMono rnd) {t g : K} (ht : rnd t = t) (h0 : 0 ≤ t) (hg0 : 0 ≤ g) (hg1 : g ≤ 1) :
    0 ≤ rnd (t * g) ∧ rnd (t * g) ≤ t :=
  ⟨ok.le_rnd ok.zero (mul_nonneg h0 hg0), ok.rnd_le ht (mul_le_of_le_one_right h0 hg1)⟩

theorem RndMono.scale_nonpos (ok : RndMono rnd) {t g : K} (ht : rnd t = t) (h0 : t ≤ 0) (hg0 : 0 ≤ g) (hg1 : g ≤ 1) :
    t ≤ rnd (t * g) ∧ rnd (t * g) ≤ 0 :=
  ⟨ok.le_rnd ht (le_mul_of_le_one_right h0 hg1), ok.rnd_le ok.zero (mul_nonpos_of_nonpos_of_nonneg h0 hg0)⟩

/-- one step from a representable `d` towards `d + t`: the rounded difference scaled by a gain in `[0, 1]` and added back
    stays between `d` and `fl(d + fl t)`, on the side of `d` that the sign of `t` says -/
theorem RndMono.blend (ok : RndMono rnd) {d t g : K} (hd : rnd d = d) (hg0 : 0 ≤ g) (hg1 : g ≤ 1) :
    (0 ≤ t → d ≤ rnd (d + rnd (rnd t * g)) ∧ rnd (d + rnd (rnd t * g)) ≤ rnd (d + rnd t)) ∧
    (t ≤ 0 → rnd (d + rnd t) ≤ rnd (d + rnd (rnd t * g)) ∧ rnd (d + rnd (rnd t * g)) ≤ d) := by
  constructor <;> intro ht
  · obtain ⟨h2, h3⟩ := ok.scale_nonneg (ok.idem t) (ok.le_rnd ok.zero ht) hg0 hg1
    exact ⟨ok.le_rnd hd (le_add_of_nonneg_right h2), ok.mono _ _ (add_le_add le_rfl h3)⟩
  · obtain ⟨h3, h2⟩ := ok.scale_nonpos (ok.idem t) (ok.rnd_le ok.zero ht) hg0 hg1
    exact ⟨ok.mono _ _ (add_le_add le_rfl h3), ok.rnd_le hd (add_le_of_nonpos_right h2)⟩

theorem rndMono_id : RndMono (fun x : K => x) := ⟨fun _ _ h => h, rfl, fun _ => rfl⟩

end

end Dasp.Envelope.Rounding

namespace Dasp.Osc

/-- one rounding moves a value of magnitude at most 32 by at most `e`.  The constants are those of the simplex analysis
    (`Apx` in `Lemmas/SimplexRounding.lean`): it keeps every exact value within 16 and every accumulated error within
    `1024·e`, and `e ≤ 2^-20` makes that at most `2^-10` (`AbsRnd.small`), so that whatever it rounds has magnitude at
    most `16 + 2^-10 ≤ 32` and the product of two accumulated errors is below one more `e`. -/
structure AbsRnd (rnd : Rat → Rat) (e : Rat) : Prop where
  e0 : 0 ≤ e
  e1 : e ≤ 1 / 1048576
  err : ∀ y, |y| ≤ 32 → |rnd y - y| ≤ e

variable {rnd : Rat → Rat} {e k : Rat}

theorem _root_.Dasp.Rms.Rounding.RndOK.absRnd {u η : Rat} (ok : Dasp.Rms.Rounding.RndOK rnd u η)
    (e0 : 0 ≤ e) (e1 : e ≤ 1 / 1048576) (he : u * 32 + η ≤ e) : AbsRnd rnd e :=
  ⟨e0, e1, fun _ hy => (ok.err_le hy).trans he⟩

theorem AbsRnd.small (ok : AbsRnd rnd e) (hk : k ≤ 1024) : k * e ≤ 1 / 1024 := by
  have := mul_le_mul_of_nonneg_right hk ok.e0
  linarith [ok.e1]

end Dasp.Osc
