import Dasp.Model.Envelope
import Dasp.Lemmas.FieldArith
import Dasp.Lemmas.Rounding
/-!
# The envelope step in ROUNDED arithmetic (C19, "hence it always lies between the previous envelope and
the detected value")

`Rounding.rndArith rnd` (Lemmas/FieldArith.lean): every operation is the exact one followed by `rnd`.
Here `rnd` is only assumed monotone, to fix 0 and to be idempotent (`RndMono`) — three facts that
`Lemmas/RoundRel.lean` proves of the rounding of the executable soft-float (`rs F`, any format with `1 ≤ prec`;
`Props.C19.softfloat_env_rounding`).  For the SAME `envSample` the
driver runs at binary32/binary64: the new envelope never passes the detected value, and on the other
side never passes `e* = fl(d + fl(l − d))`, the float recomputation of the previous envelope `l`
itself (`e*` differs from `l` by at most the two roundings in it; `overshoot_bound`).
-/
set_option linter.unusedSectionVars false  -- `envR_eq` only unfolds the model

namespace Dasp.Envelope.Rounding
open Dasp Dasp.Envelope Dasp.Rms.Rounding

variable {K : Type} [Field K] [LinearOrder K] [IsStrictOrderedRing K]

/-- `envSample` in rounded arithmetic (gains in the same field; `gain.to_sample()` exact) -/
def envR (rnd : K → K) (attack release l d : K) : K :=
  @envSample K K (rndArith rnd) id attack release l d

theorem envR_eq (rnd : K → K) (a r l d : K) :
    envR rnd a r l d = rnd (d + rnd (rnd (l + -d) * (if l < d then a else r))) := by
  simp only [envR, envSample, Arith.lt, Arith.add, Arith.neg, Arith.mul, id, decide_eq_true_eq]

open Dasp.Exact in
theorem envR_id (a r l d : K) : envR (fun x => x) a r l d = envSample id a r l d := rfl

/-- the float recomputation of the previous envelope from the detected value: `fl(d + fl(l − d))` -/
def eStar (rnd : K → K) (l d : K) : K := rnd (d + rnd (l + -d))

/-- **betweenness in rounded arithmetic**: for representable `l` (previous envelope) and `d` (detected
    value) and gains in `[0, 1]`, the new envelope lies between `d` and `e*` -/
theorem envR_between {rnd : K → K} (ok : RndMono rnd) (a r l d : K) (hd : rnd d = d)
    (ha : 0 ≤ a ∧ a ≤ 1) (hr : 0 ≤ r ∧ r ≤ 1) :
    (d ≤ l → d ≤ envR rnd a r l d ∧ envR rnd a r l d ≤ eStar rnd l d) ∧
    (l ≤ d → eStar rnd l d ≤ envR rnd a r l d ∧ envR rnd a r l d ≤ d) := by
  rw [envR_eq, eStar]
  have hg : 0 ≤ (if l < d then a else r) ∧ (if l < d then a else r) ≤ 1 := by split <;> assumption
  -- the step `RndMono.blend` from `d` towards `d + (l − d)`
  have h := ok.blend (t := l + -d) hd hg.1 hg.2
  exact ⟨fun hle => h.1 ((sub_nonneg.mpr hle).trans_eq (sub_eq_add_neg l d)),
    fun hle => h.2 ((sub_eq_add_neg l d).symm.trans_le (sub_nonpos.mpr hle))⟩

/-- gain 0 (time 0): the step returns the rounded detected value, whatever the previous envelope -/
theorem envR_gain_zero {rnd : K → K} (h0 : rnd 0 = 0) {a r l d : K} (hg : (if l < d then a else r) = 0) :
    envR rnd a r l d = rnd d := by
  rw [envR_eq, hg, mul_zero, h0, add_zero]

/-- how far `e*` can be from the previous envelope: the two roundings in it -/
theorem overshoot_bound {rnd : K → K} {u η : K} (ok : RndOK rnd u η) (l d : K) :
    |eStar rnd l d - l| ≤ (1 + u) * (u * |l - d| + η) + u * |l| + η := by
  refine (ok.close ?_).trans_eq (by rw [sub_eq_add_neg])
  rw [show d + rnd (l + -d) - l = rnd (l + -d) - (l + -d) by ring]
  exact ok.err _

end Dasp.Envelope.Rounding
