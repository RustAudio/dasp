import Dasp.Lemmas.Osc
import Dasp.Lemmas.Rounding
/-!
# `simplex_noise_1d` in ROUNDED arithmetic (C17, "simplex-noise outputs always lie within [-1, 1]")

`rndRatArith rnd sinO` is the exact arithmetic of `Lemmas/Osc.lean` with every `+ − × ÷` and every
decimal literal followed by one application of a rounding function `rnd` (`floor`, the casts between
`i64` and `f64` of the integers that occur — |i| ≤ 2^16 — and integer literals are exact).  `AbsRnd rnd e`
is all that is assumed: on the range `|y| ≤ 32` one rounding moves a value by at most `e`.  For IEEE
binary64 `e = 32·2^−53 + 2^−1075 < 2^−47` (`Lemmas/RoundRel.lean: rs_err`).

`Apx e M k a a'` relates a computed value `a'` to the exact `a` it stands for: `|a| ≤ M` and `|a' − a| ≤ k·e`.
One rule per rounded operation (`Apx.add`, `Apx.sub`, `Apx.mul`) gives the `M` and `k` of the result; all three are
`Approx.close_*` for the operands followed by the one rounding of `Apx.of_close`.

Result: the SAME `simplexNoise1d` the driver runs at binary64 differs from its exact value by at most
`531·e`, hence stays within `[−1, 1]` whenever `531·e ≤ 1.5625·10^−4` — the margin the exact bound
`0.99984375` leaves.
-/

namespace Dasp.Osc
open Dasp.Gen Dasp.Approx

/-- exact arithmetic with one rounding after each of `+ − × ÷` and each decimal literal -/
def rndRatArith (rnd : Rat → Rat) (sinO : Rat → Rat) : Arith Rat :=
  { ratArith sinO with
    ofDec := fun m e => rnd ((m : Rat) / ((10 ^ e : Nat) : Rat))
    add := fun a b => rnd (a + b)
    sub := fun a b => rnd (a - b)
    mul := fun a b => rnd (a * b)
    div := fun a b => rnd (a / b) }

variable {rnd : Rat → Rat} {e M k Ma Mb ka kb a a' b b' : Rat}

/-- `a'` is the computed counterpart of the exact `a`: `|a| ≤ M`, at most half the range on which `AbsRnd` speaks,
    and `|a' − a| ≤ k·e` with `k ≤ 1024`, so that `k·e ≤ 2^-10` and the product of two such errors is below one `e` -/
structure Apx (e M k a a' : Rat) : Prop where
  mag : |a| ≤ M
  err : |a' - a| ≤ k * e
  M_le : M ≤ 16
  k0 : 0 ≤ k
  k_le : k ≤ 1024

/-- one rounding of a value `y` that is within `k'·e` of `x`: `|y| ≤ 16 + 2^-10` is in range -/
theorem Apx.of_close (ok : AbsRnd rnd e) {x y k' : Rat} (hx : |x| ≤ M) (h : |y - x| ≤ k' * e)
    (hM : M ≤ 16) (hk : 0 ≤ k' ∧ k' + 1 ≤ k ∧ k ≤ 1024) : Apx e M k x (rnd y) := by
  have hs := ok.small (k := k') (by linarith)
  have hy := abs_le_of_close hx h
  have hr := ok.err y (by linarith)
  refine ⟨hx, le_trans (close_trans h hr) ?_, hM, by linarith, hk.2.2⟩
  have := mul_le_mul_of_nonneg_right hk.2.1 ok.e0
  linarith

theorem Apx.exact (h : |a| ≤ M) (hM : M ≤ 16) : Apx e M 0 a a :=
  ⟨h, by simp, hM, le_refl _, by norm_num⟩

theorem Apx.round (ok : AbsRnd rnd e) (h : |a| ≤ M) (hM : M ≤ 16) : Apx e M 1 a (rnd a) :=
  .of_close ok (k' := 0) h (by simp) hM (by norm_num)

/-- the magnitude is a fact about the exact value alone and may be re-established by any means -/
theorem Apx.remag {M' : Rat} (h : Apx e M k a a') (h' : |a| ≤ M') (hM : M' ≤ 16) : Apx e M' k a a' :=
  ⟨h', h.err, hM, h.k0, h.k_le⟩

theorem Apx.add (ok : AbsRnd rnd e) (ha : Apx e Ma ka a a') (hb : Apx e Mb kb b b')
    (hM : Ma + Mb ≤ M ∧ M ≤ 16) (hk : ka + kb + 1 ≤ k ∧ k ≤ 1024) : Apx e M k (a + b) (rnd (a' + b')) :=
  .of_close ok (le_trans (abs_add_le a b) (le_trans (add_le_add ha.mag hb.mag) hM.1))
    (by rw [add_mul]; exact close_add ha.err hb.err) hM.2 ⟨add_nonneg ha.k0 hb.k0, hk⟩

theorem Apx.sub (ok : AbsRnd rnd e) (ha : Apx e Ma ka a a') (hb : Apx e Mb kb b b')
    (hM : Ma + Mb ≤ M ∧ M ≤ 16) (hk : ka + kb + 1 ≤ k ∧ k ≤ 1024) : Apx e M k (a - b) (rnd (a' - b')) :=
  .of_close ok (le_trans (abs_sub a b) (le_trans (add_le_add ha.mag hb.mag) hM.1))
    (by rw [add_mul]; exact close_sub ha.err hb.err) hM.2 ⟨add_nonneg ha.k0 hb.k0, hk⟩

/-- `|â·b̂ − a·b| ≤ Ma·kb·e + Mb·ka·e + (ka·e)(kb·e)` and the last term, at most `(1024·e)·2^-10`, is absorbed into one
    more `e`; then one rounding -/
theorem Apx.mul (ok : AbsRnd rnd e) (ha : Apx e Ma ka a a') (hb : Apx e Mb kb b b')
    (hM : Ma * Mb ≤ M ∧ M ≤ 16) (hk : Ma * kb + Mb * ka + 2 ≤ k ∧ k ≤ 1024) : Apx e M k (a * b) (rnd (a' * b')) := by
  have hq : ka * e * (kb * e) ≤ 1024 * e * (1 / 1024) :=
    mul_le_mul (mul_le_mul_of_nonneg_right ha.k_le ok.e0) (ok.small hb.k_le)
      (mul_nonneg hb.k0 ok.e0) (mul_nonneg (by norm_num) ok.e0)
  have hMa := le_trans (abs_nonneg _) ha.mag
  have hMb := le_trans (abs_nonneg _) hb.mag
  refine .of_close ok (k' := Ma * kb + Mb * ka + 1) (le_trans (abs_mul_le_mul ha.mag hb.mag) hM.1)
    (le_trans (close_mul ha.mag hb.mag ha.err hb.err) ?_) hM.2
    ⟨add_nonneg (add_nonneg (mul_nonneg hMa hb.k0) (mul_nonneg hMb ha.k0)) zero_le_one, by linarith, hk.2⟩
  linarith

/-- `grad` in the rounded arithmetic: the same integer gradient (the sum `1 + k`, `k ≤ 7`, is exact — assumed
    of `rnd` on the integers `0..8` only) times `x`, rounded once -/
theorem grad_rnd (sinO : Rat → Rat) (hint : ∀ n : Nat, n ≤ 8 → rnd (n : Rat) = (n : Rat)) (hash : Nat) (x : Rat) :
    grad (rndRatArith rnd sinO) hash x = rnd (gradCoef hash * x) :=
  grad_eq_mul _ (fun _ => rfl) (fun k hk => by
    have := hint (1 + k) (by omega)
    show rnd (((1 : Nat) : Rat) + ((k : Int) : Rat)) = _
    push_cast at this ⊢; exact this) hash x

theorem abs_one_sub_sq_le {x : Rat} (h : |x| ≤ 1) : |1 - x * x| ≤ 1 := by
  have := abs_mul_le_mul h h
  rw [abs_le] at this ⊢
  constructor <;> linarith [mul_self_nonneg x]

/-- a corner evaluated at a computed distance `x'` that is `k ≤ 2` roundings from `x` is `72k + 148` roundings from
    the exact corner: `x² ↦ 2k+2`, `1 − x² ↦ 2k+3`, squared twice `↦ 4k+8 ↦ 8k+18`, `grad ↦ 8k+2`, product
    `↦ (8k+2) + 8(8k+18) + 2` -/
theorem corner_close (sinO : Rat → Rat) (ok : AbsRnd rnd e) (hint : ∀ n : Nat, n ≤ 8 → rnd (n : Rat) = (n : Rat))
    (hash : Nat) {x x' : Rat} (px : Apx e 1 k x x') (hk : k ≤ 2) :
    Apx e 8 (72 * k + 148) (corner (ratArith sinO) hash x) (corner (rndRatArith rnd sinO) hash x') := by
  have one : Apx e 1 0 (1 : Rat) 1 := .exact (by norm_num) (by norm_num)
  have psq : Apx e 1 (2 * k + 2) (x * x) (rnd (x' * x')) :=
    px.mul ok px (by norm_num) (by constructor <;> linarith)
  have pta : Apx e 1 (2 * k + 3) (1 - x * x) (rnd (1 - rnd (x' * x'))) :=
    (one.sub ok psq (M := 2) (by norm_num) (by constructor <;> linarith)).remag (abs_one_sub_sq_le px.mag) (by norm_num)
  have ptb : Apx e 1 (4 * k + 8) _ _ := pta.mul ok pta (by norm_num) (by constructor <;> linarith)
  have ptc : Apx e 1 (8 * k + 18) _ _ := ptb.mul ok ptb (by norm_num) (by constructor <;> linarith)
  have pg : Apx e 8 (8 * k + 2) (gradCoef hash * x) (rnd (gradCoef hash * x')) :=
    (Apx.exact (gradCoef_abs hash) (by norm_num)).mul ok px (by norm_num) (by constructor <;> linarith)
  have := ptc.mul ok pg (M := 8) (k := 72 * k + 148) (by norm_num) (by constructor <;> linarith)
  rw [← grad_exact sinO, ← grad_rnd sinO hint] at this
  exact this

/-- **the float simplex value is within `531·e` of the exact one**: `x − ⌊x⌋` is 1 rounding off, `x − ⌊x⌋ − 1` is 2,
    the corners 220 and 292, their sum 513, and the product with the rounded literal `0.395` is `513 + 16·1 + 2` -/
theorem simplex_rounded_close (sinO : Rat → Rat) (ok : AbsRnd rnd e)
    (hint : ∀ n : Nat, n ≤ 8 → rnd (n : Rat) = (n : Rat))
    {x : Rat} (h0 : 0 ≤ x) (h1 : x < 65536) :
    |simplexNoise1d (rndRatArith rnd sinO) x - simplexNoise1d (ratArith sinO) x| ≤ 531 * e := by
  have hfl : (rndRatArith rnd sinO).toI64 ((rndRatArith rnd sinO).floor x) = ⌊x⌋ := toI64_floor sinO h0 h1
  rw [simplexNoise1d_eq, simplexNoise1d_eq, hfl, toI64_floor sinO h0 h1]
  have hf0 := Int.floor_le x
  have hf1 := Int.lt_floor_add_one x
  have px0 : Apx e 1 1 (x - ((⌊x⌋ : Int) : Rat)) (rnd (x - ((⌊x⌋ : Int) : Rat))) :=
    .round ok (by rw [abs_le]; constructor <;> linarith) (by norm_num)
  have px1 : Apx e 1 2 (x - ((⌊x⌋ : Int) : Rat) - 1) (rnd (rnd (x - ((⌊x⌋ : Int) : Rat)) - 1)) :=
    (px0.sub ok (.exact (M := 1) (by norm_num) (by norm_num)) (M := 2) (by norm_num) (by norm_num)).remag
      (by rw [abs_le]; constructor <;> linarith) (by norm_num)
  have ps := (corner_close sinO ok hint (permHash ⌊x⌋) px0 (by norm_num)).add ok
    (corner_close sinO ok hint (permHash (⌊x⌋ + 1)) px1 (by norm_num)) (M := 16) (k := 513) (by norm_num) (by norm_num)
  have pc : Apx e 1 1 ((ratArith sinO).ofDec Osc.scaleNum Osc.scaleExp)
      ((rndRatArith rnd sinO).ofDec Osc.scaleNum Osc.scaleExp) :=
    .round ok (by rw [ofDec_scale, abs_le]; constructor <;> norm_num) (by norm_num)
  exact (pc.mul ok ps (M := 16) (k := 531) (by norm_num) (by norm_num)).err

end Dasp.Osc
