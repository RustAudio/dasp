import Mathlib.Tactic.Linarith
import Mathlib.Tactic.Ring
import Mathlib.Tactic.Positivity
import Mathlib.Tactic.NormNum
import Mathlib.Algebra.Order.Field.Power
import Dasp.Model.SqrtTrick

/-! no_std `sqrt` bit trick (dasp_sample/src/ops.rs): `from_bits((to_bits(x) + BIAS) >> 1)`.
    For a normal x = 2^e·(1+m), 0 ≤ m < 1, with e = 2j + k, k ∈ {0, 1}, the result is
      a = 2^j·(1 + k/2 + m')        with m' = ⌊M/2⌋/2^p  ∈ [m/2 − δ, m/2]
    (`1 + m'` for even e, `3/2 + m'` for odd e), where δ = 2^−(p+1) is the bit lost by the shift.
    We bound a² against x without mentioning √. -/
namespace Dasp.SqrtTrick

/-- the square of a value `q ∈ [p − δ, p]` against a reference `X` with `X ≤ p² ≤ c·X` and `2p ≤ 3X`:
    `q² ≥ p² − 2pδ ≥ X − 3δX` -/
theorem sq_near {p q δ X c : ℚ} (hδ : 0 ≤ δ) (hq : 0 ≤ q) (hl : p - δ ≤ q) (hu : q ≤ p)
    (h1 : X ≤ p ^ 2) (h2 : p ^ 2 ≤ c * X) (h3 : 2 * p ≤ 3 * X) :
    (1 - 3 * δ) * X ≤ q ^ 2 ∧ q ^ 2 ≤ c * X := by
  -- q² = p² − (p − q)(p + q) ≥ p² − δ·2p
  have a1 : (p - q) * (p + q) ≤ δ * (2 * p) :=
    mul_le_mul (by linarith) (by linarith) (by linarith) hδ
  have a2 : δ * (2 * p) ≤ δ * (3 * X) := mul_le_mul_of_nonneg_left h3 hδ
  exact ⟨by linarith, (pow_le_pow_left₀ hq hu 2).trans h2⟩

/-- **the rational core**: `x = s·(1+k)·(1+m)` and the result `√s·(1 + k/2 + m')` with `m' ∈ [m/2 − δ, m/2]`, for every
    `k ∈ [0, 1]`; in the bit trick `k ∈ {0, 1}` is the parity of the exponent and `1 + k = 2^k`.  The exact half
    `1 + k/2 + m/2` has square `(1+k)(1+m) + ((k−m)/2)²`, at most `9/8` of `(1+k)(1+m)`. -/
theorem halved_sq {m m' δ s k : ℚ} (hk0 : 0 ≤ k) (hk1 : k ≤ 1) (hm0 : 0 ≤ m) (hm1 : m ≤ 1) (hδ0 : 0 ≤ δ)
    (hm'0 : 0 ≤ m') (hl : m / 2 - δ ≤ m') (hu : m' ≤ m / 2) (hs : 0 < s) :
    (1 - 3 * δ) * (s * ((1 + k) * (1 + m))) ≤ s * (1 + k / 2 + m') ^ 2 ∧
    s * (1 + k / 2 + m') ^ 2 ≤ (9/8) * (s * ((1 + k) * (1 + m))) := by
  have e : (1 + k / 2 + m / 2) ^ 2 = (1 + k) * (1 + m) + ((k - m) / 2) ^ 2 := by ring
  -- `9/8·(1+k)(1+m) − (1 + k/2 + m/2)² = ((1−k)(1−m)(1+2m) + 2km(3−m) + 2k(1−k)) / 8`
  have h2 : (1 + k / 2 + m / 2) ^ 2 ≤ 9 / 8 * ((1 + k) * (1 + m)) := by
    linarith [mul_nonneg (sub_nonneg.2 hk1) (mul_nonneg (sub_nonneg.2 hm1) (by linarith : 0 ≤ 1 + 2 * m)),
      mul_nonneg hk0 (mul_nonneg hm0 (by linarith : 0 ≤ 3 - m)), mul_nonneg hk0 (sub_nonneg.2 hk1)]
  obtain ⟨a, b⟩ := sq_near (p := 1 + k / 2 + m / 2) (q := 1 + k / 2 + m') (c := 9/8) hδ0
    (add_nonneg (add_nonneg zero_le_one (div_nonneg hk0 zero_le_two)) hm'0)
    (by rw [add_sub_assoc]; exact add_le_add le_rfl hl) (add_le_add le_rfl hu) (e ▸ le_add_of_nonneg_right (sq_nonneg _)) h2
    (by linarith [mul_nonneg hk0 hm0])
  rw [mul_left_comm, mul_left_comm (9 / 8)]
  exact ⟨mul_le_mul_of_nonneg_left a hs.le, mul_le_mul_of_nonneg_left b hs.le⟩

theorem even_case (m m' δ s : ℚ) (hm0 : 0 ≤ m) (hm1 : m < 1) (hδ0 : 0 ≤ δ) (hδ : δ ≤ 1/1000000)
    (hm'0 : 0 ≤ m') (hl : m / 2 - δ ≤ m') (hu : m' ≤ m / 2) (hs : 0 < s) :
    (1 - 3 * δ) * (s * (1 + m)) ≤ s * (1 + m') ^ 2 ∧ s * (1 + m') ^ 2 ≤ (9/8) * (s * (1 + m)) := by
  have := halved_sq le_rfl zero_le_one hm0 hm1.le hδ0 hm'0 hl hu hs
  rwa [add_zero, one_mul, zero_div, add_zero] at this

theorem odd_case (m m' δ s : ℚ) (hm0 : 0 ≤ m) (hm1 : m < 1) (hδ0 : 0 ≤ δ) (hδ : δ ≤ 1/1000000)
    (hm'0 : 0 ≤ m') (hl : m / 2 - δ ≤ m') (hu : m' ≤ m / 2) (hs : 0 < s) :
    (1 - 3 * δ) * (s * (2 * (1 + m))) ≤ s * (3/2 + m') ^ 2 ∧ s * (3/2 + m') ^ 2 ≤ (9/8) * (s * (2 * (1 + m))) := by
  have := halved_sq zero_le_one le_rfl hm0 hm1.le hδ0 hm'0 hl hu hs
  rwa [one_add_one_eq_two, show (1 : ℚ) + 1 / 2 = 3 / 2 by norm_num] at this

/-- from a² ∈ [(1−ε)x, (9/8)x] to the 7 % statement: 0.93²·x ≤ a² ≤ 1.07²·x -/
theorem seven_percent (a2 x ε : ℚ) (hx : 0 ≤ x) (hε : ε ≤ 1/10) (h1 : (1 - ε) * x ≤ a2) (h2 : a2 ≤ (9/8) * x) :
    (93/100)^2 * x ≤ a2 ∧ a2 ≤ (107/100)^2 * x :=
  ⟨(mul_le_mul_of_nonneg_right (by linarith) hx).trans h1, h2.trans (mul_le_mul_of_nonneg_right (by norm_num) hx)⟩

/-- value of the positive normal binary float with biased exponent field `E` and mantissa field `M`
    (`p` mantissa bits, exponent bias `bias`): `2^(E − bias) · (1 + M / 2^p)` (IEEE 754) -/
def normVal (p : ℕ) (bias : ℤ) (E M : ℕ) : ℚ := (2:ℚ) ^ ((E:ℤ) - bias) * (1 + (M:ℚ) / 2 ^ p)

theorem normVal_pos (p : ℕ) (bias : ℤ) (E M : ℕ) : 0 < normVal p bias E M := by
  unfold normVal; positivity

/-- the shift drops the last mantissa bit: `M' = ⌊M/2⌋` as fractions of `P` -/
theorem half_bounds {P M M' : ℚ} (hP : 0 < P) (h1 : 2 * M' ≤ M) (h2 : M ≤ 2 * M' + 1) :
    M / P / 2 - 1 / (P * 2) ≤ M' / P ∧ M' / P ≤ M / P / 2 := by
  rw [div_right_comm M, ← div_div 1 P 2, div_right_comm 1, ← sub_div]
  exact ⟨div_le_div_of_nonneg_right (by linarith) hP.le, div_le_div_of_nonneg_right (by linarith) hP.le⟩

/-- exponent `2j + k`, `k ∈ {0, 1}`: the halved pattern has exponent `j`, mantissa `⌊M/2⌋` and, for `k = 1`, the top
    mantissa bit `P' = 2^(p−1)` -/
theorem bound_halved (p P' : ℕ) (hP : 2 ^ p = 2 * P') (j : ℤ) (k M M' : ℕ) (hk : k ≤ 1) (hM : M < 2 ^ p)
    (h1 : 2 * M' ≤ M) (h2 : M ≤ 2 * M' + 1) :
    (1 - 3 / 2 ^ (p + 1)) * ((2:ℚ) ^ (2 * j + k) * (1 + (M:ℚ) / 2 ^ p)) ≤
      ((2:ℚ) ^ j * (1 + ((k * P' + M' : ℕ):ℚ) / 2 ^ p)) ^ 2 ∧
    ((2:ℚ) ^ j * (1 + ((k * P' + M' : ℕ):ℚ) / 2 ^ p)) ^ 2 ≤ (9/8) * ((2:ℚ) ^ (2 * j + k) * (1 + (M:ℚ) / 2 ^ p)) := by
  have hPq : (2:ℚ) ^ p = 2 * P' := by exact_mod_cast hP
  have hP0 : (0:ℚ) < 2 ^ p := by positivity
  obtain ⟨hl, hu⟩ := half_bounds hP0 (M := M) (M' := M') (by exact_mod_cast h1) (by exact_mod_cast h2)
  have := halved_sq (s := ((2:ℚ) ^ j) ^ 2) (Nat.cast_nonneg k) (by exact_mod_cast hk) (div_nonneg (Nat.cast_nonneg M) hP0.le)
    ((div_le_one hP0).mpr (by exact_mod_cast hM.le)) (by positivity) (by positivity) hl hu (by positivity)
  have e2 : (2:ℚ) ^ (2 * j + k) = ((2:ℚ) ^ j) ^ 2 * (1 + k) := by
    rw [zpow_add₀ two_ne_zero, two_mul, zpow_add₀ two_ne_zero, sq, zpow_natCast]
    rcases (by omega : k = 0 ∨ k = 1) with rfl | rfl <;> norm_num
  have ea : (1:ℚ) + ((k * P' + M' : ℕ):ℚ) / 2 ^ p = 1 + k / 2 + (M':ℚ) / 2 ^ p := by
    have hP'0 : (P':ℚ) ≠ 0 := fun h => by rw [h, mul_zero] at hPq; exact hP0.ne' hPq
    rw [Nat.cast_add, Nat.cast_mul, add_div, hPq, mul_div_mul_right _ _ hP'0, add_assoc]
  rw [ea, e2, mul_pow, mul_assoc, show (3:ℚ) / 2 ^ (p + 1) = 3 * (1 / (2 ^ p * 2)) by rw [pow_succ]; ring]
  exact this

/-- halving a pattern: with `P = 2·P'` the pattern `((2a + k)·P + M) / 2`, `k ≤ 1`, has exponent field `a` and mantissa
    field `M / 2`, plus `P'` (the top mantissa bit) when `k = 1` -/
theorem halve_pattern (P' a k M : ℕ) (hk : k ≤ 1) (hM : M < 2 * P') :
    ((2 * a + k) * (2 * P') + M) / 2 / (2 * P') = a ∧ ((2 * a + k) * (2 * P') + M) / 2 % (2 * P') = k * P' + M / 2 := by
  have hkP : k * P' ≤ P' := (Nat.mul_le_mul_right P' hk).trans_eq (one_mul _)
  refine (Nat.div_mod_unique (by omega)).mpr ⟨?_, by omega⟩
  rw [show (2 * a + k) * (2 * P') + M = M + 2 * (k * P' + 2 * P' * a) by ring, Nat.add_mul_div_left _ _ two_pos]; ring

theorem approxBits_one {w bias b : ℕ} (h : b + bias < 2 ^ w) : approxBits w bias 1 b = (b + bias) / 2 := by
  rw [approxBits, Nat.mod_eq_of_lt h, Nat.shiftRight_eq_div_pow, pow_one]

/-- **any binary format, bit level**: `p ≥ 1` mantissa bits, exponent bias `β`, patterns of width `w`.  For every
    positive normal pattern (exponent field `1 ≤ E ≤ 2β`, mantissa field `M < 2^p`) the pattern
    `(bits + β·2^p) >> 1` is again a positive normal pattern (the addition does not wrap: `hw`, since
    `bits + β·2^p < (E + β + 1)·2^p` and `E ≤ 2β`), and its value `a`
    satisfies `(1 − 3·2^−(p+1))·x ≤ a² ≤ (9/8)·x`: with `E + β = 2a + k` the unbiased exponent of `x` is `2(a − β) + k` -/
theorem approxBits_bound (w p β : ℕ) (hp : 1 ≤ p) (hw : (3 * β + 1) * 2 ^ p ≤ 2 ^ w)
    (E M : ℕ) (hE1 : 1 ≤ E) (hE2 : E ≤ 2 * β) (hM : M < 2 ^ p) :
    let r := approxBits w (β * 2 ^ p) 1 (E * 2 ^ p + M)
    E * 2 ^ p + M + β * 2 ^ p < 2 ^ w ∧ 1 ≤ r / 2 ^ p ∧ r / 2 ^ p ≤ 2 * β ∧
    (1 - 3 / 2 ^ (p + 1)) * normVal p β E M ≤ (normVal p β (r / 2 ^ p) (r % 2 ^ p)) ^ 2 ∧
    (normVal p β (r / 2 ^ p) (r % 2 ^ p)) ^ 2 ≤ (9/8) * normVal p β E M := by
  intro r
  obtain ⟨P', hP⟩ : ∃ P', 2 ^ p = 2 * P' := ⟨2 ^ (p - 1), by rw [← pow_succ']; congr 1; omega⟩
  obtain ⟨a, k, hk, hS⟩ : ∃ a k, k ≤ 1 ∧ E + β = 2 * a + k := ⟨(E + β) / 2, (E + β) % 2, by omega, by omega⟩
  have hsum : E * 2 ^ p + M + β * 2 ^ p = (2 * a + k) * (2 * P') + M := by rw [← hS, ← hP]; ring
  have hw' : E * 2 ^ p + M + β * 2 ^ p < 2 ^ w := by
    refine lt_of_lt_of_le ?_ ((Nat.mul_le_mul_right _ (show E + β + 1 ≤ 3 * β + 1 by omega)).trans hw)
    rw [show (E + β + 1) * 2 ^ p = E * 2 ^ p + β * 2 ^ p + 2 ^ p by ring]; omega
  obtain ⟨o1, o2⟩ := halve_pattern P' a k M hk (hP ▸ hM)
  have hr : r = ((2 * a + k) * (2 * P') + M) / 2 := (approxBits_one hw').trans (by rw [hsum])
  rw [hr, hP, o1, o2, ← hP]
  refine ⟨hw', by omega, by omega, ?_⟩
  have := bound_halved p P' hP ((a:ℤ) - β) k M (M / 2) hk hM (by omega) (by omega)
  unfold normVal
  rwa [show (E:ℤ) - β = 2 * ((a:ℤ) - β) + k by omega]

end Dasp.SqrtTrick
