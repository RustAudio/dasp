import Dasp.Model.Signal
/-!
# Lemmas about the signal model: state-level denotation, step lemmas, lock-step equations

The notions in which `Props/C04.lean` and `Props/C05.lean` speak of an arbitrary run-time state are defined here:
`St.den` / `St.len` give its *future* (what the next calls will yield, how many meaningful frames are left; `live l i`:
frame `i` is one of `l` meaningful ones); `St.pullsAfter`, `St.logsAfter`, `St.borrowsAfter` (and `Sig.pullsAfter` for an
expression) give what the state reached after `j` calls has *recorded*.
The future is handled by step lemmas (`next_den`, `next_len`), each a structural induction over the state.  The
record (pull counters, iterator calls, inspect logs, borrowed signals) is read off the equations of `run` on
each constructor (`run_un` … `run_fromSamples`).  Both hold for adaptor trees of any depth.
`Props/C04.lean` and `Props/C05.lean` specialise them to the initial state of a signal expression.
-/
namespace Dasp.Signal
variable {α : Type}

/-- the frame the `i`-th of the next calls of `next` yields (`i = 0`: the very next call) -/
def St.den (o : Ops α) : St α → Nat → List α
  | .fromIter slot rest _ _, i =>
    match slot with
    | none => o.eq
    | some f => (f :: rest).getD i o.eq
  | .fromSamples n slot rest _ _, i =>
    match slot with
    | none => o.eq
    | some f => (f :: chunks n rest).getD i o.eq
  | .equilibrium _, _ => o.eq
  | .gen f p, i => f (p + i)
  | .un u s, i => u.apply o (s.den o i)
  | .bin b a c, i => b.apply o (a.den o i) (c.den o i)
  | .inspect _ s, i => s.den o i
  | .delay k s, i => if i < k then o.eq else s.den o (i - k)
  | .byRef s, i => s.den o i

/-- meaningful frames left (`none` = infinite) -/
def St.len : St α → Option Nat
  | .fromIter slot rest _ _ =>
    match slot with
    | none => some 0
    | some _ => some (rest.length + 1)
  | .fromSamples n slot rest _ _ =>
    match slot with
    | none => some 0
    | some _ => some (rest.length / n + 1)
  | .equilibrium _ => none
  | .gen _ _ => none
  | .un _ s => s.len
  | .bin _ a c => minLen a.len c.len
  | .inspect _ s => s.len
  | .delay k s => s.len.map (· + k)
  | .byRef s => s.len

/-- expected pull counters after `j` more calls of `next` on the root: each own source once per
    call, except that a `delay k` passes on only the calls after its first `k` -/
def St.pullsAfter : St α → Nat → List Nat
  | .fromIter _ _ _ p, j => [p + j]
  | .fromSamples _ _ _ _ p, j => [p + j]
  | .equilibrium p, j => [p + j]
  | .gen _ p, j => [p + j]
  | .un _ s, j => s.pullsAfter j
  | .bin _ a c, j => a.pullsAfter j ++ c.pullsAfter j
  | .inspect _ s, j => s.pullsAfter j
  | .delay k s, j => s.pullsAfter (j - k)
  | .byRef _, _ => []

/-- expected state of every borrowed signal after `j` calls on the root: advanced by exactly the
    calls that reached it -/
def St.borrowsAfter (o : Ops α) : St α → Nat → List (St α)
  | .fromIter .., _ => []
  | .fromSamples .., _ => []
  | .equilibrium _, _ => []
  | .gen _ _, _ => []
  | .un _ s, j => s.borrowsAfter o j
  | .bin _ a c, j => a.borrowsAfter o j ++ c.borrowsAfter o j
  | .inspect _ s, j => s.borrowsAfter o j
  | .delay k s, j => s.borrowsAfter o (j - k)
  | .byRef s, j => [(run o j s).2]

/-- expected inspect logs after `j` calls on the root: each closure has seen exactly the frames its
    source yielded -/
def St.logsAfter (o : Ops α) : St α → Nat → List (List (List α))
  | .fromIter .., _ => []
  | .fromSamples .., _ => []
  | .equilibrium _, _ => []
  | .gen _ _, _ => []
  | .un _ s, j => s.logsAfter o j
  | .bin _ a c, j => a.logsAfter o j ++ c.logsAfter o j
  | .inspect log s, j => (log ++ (List.range j).map (s.den o)) :: s.logsAfter o j
  | .delay k s, j => s.logsAfter o (j - k)
  | .byRef _, _ => []

theorem chunksAux_fuel (n : Nat) : ∀ (f1 f2 : Nat) (ss : List α), ss.length ≤ f1 → ss.length ≤ f2 →
    chunksAux n f1 ss = chunksAux n f2 ss := by
  intro f1
  induction f1 with
  | zero =>
    intro f2 ss h1 _
    cases f2 with
    | zero => rfl
    | succ f2 => simp only [chunksAux]; rw [if_neg (by omega)]
  | succ f1 ih =>
    intro f2 ss h1 h2
    cases f2 with
    | zero => simp only [chunksAux]; rw [if_neg (by omega)]
    | succ f2 =>
      simp only [chunksAux]
      by_cases h : 0 < n ∧ n ≤ ss.length
      · rw [if_pos h, if_pos h, ih f2 (ss.drop n) (by rw [List.length_drop]; omega) (by rw [List.length_drop]; omega)]
      · rw [if_neg h, if_neg h]

theorem chunks_eq (n : Nat) (ss : List α) :
    chunks n ss = if 0 < n ∧ n ≤ ss.length then ss.take n :: chunks n (ss.drop n) else [] := by
  unfold chunks
  cases hl : ss.length with
  | zero => simp only [chunksAux]; rw [if_neg (by omega)]
  | succ l =>
    simp only [chunksAux, hl]
    by_cases h : 0 < n ∧ n ≤ l + 1
    · rw [if_pos h, if_pos h, chunksAux_fuel n l (ss.drop n).length (ss.drop n) (by rw [List.length_drop]; omega) (Nat.le_refl _)]
    · rw [if_neg h, if_neg h]

theorem chunks_induct {P : List α → Prop} (n : Nat)
    (step : ∀ ss, (0 < n ∧ n ≤ ss.length) → P (ss.drop n) → P ss)
    (stop : ∀ ss, ¬ (0 < n ∧ n ≤ ss.length) → P ss) : ∀ ss, P ss := by
  intro ss
  induction hl : ss.length using Nat.strongRecOn generalizing ss with
  | _ l ih =>
    by_cases h : 0 < n ∧ n ≤ ss.length
    · exact step ss h (ih (ss.drop n).length (by rw [List.length_drop]; omega) _ rfl)
    · exact stop ss h

theorem chunks_length (n : Nat) (ss : List α) : (chunks n ss).length = ss.length / n := by
  induction ss using chunks_induct n with
  | step ss h ih =>
    rw [chunks_eq, if_pos h, List.length_cons, ih, List.length_drop, Nat.div_eq ss.length n, if_pos h]
  | stop ss h =>
    rw [chunks_eq, if_neg h, Nat.div_eq ss.length n, if_neg h]; rfl

theorem chunks_mem_length (n : Nat) (ss : List α) : ∀ f ∈ chunks n ss, f.length = n := by
  induction ss using chunks_induct n with
  | step ss h ih =>
    intro f hf
    rw [chunks_eq, if_pos h] at hf
    rcases List.mem_cons.mp hf with rfl | hf
    · simp [List.length_take]; omega
    · exact ih f hf
  | stop ss h => intro f hf; rw [chunks_eq, if_neg h] at hf; cases hf

theorem chunks_flatten (n : Nat) (ss : List α) :
    (chunks n ss).flatten = ss.take (ss.length / n * n) := by
  induction ss using chunks_induct n with
  | step ss h ih =>
    rw [chunks_eq, if_pos h, List.flatten_cons, ih, List.length_drop, Nat.div_eq ss.length n, if_pos h, Nat.add_mul,
      Nat.one_mul, Nat.add_comm, List.take_add]
  | stop ss h =>
    rw [chunks_eq, if_neg h, Nat.div_eq ss.length n, if_neg h]; simp

theorem takeFrame_fst (n : Nat) (rest : List α) :
    (takeFrame n rest).1 = (chunks n rest).head? := by
  rw [chunks_eq]; unfold takeFrame; split <;> rfl

theorem ofSamples_den (o : Ops α) (n : Nat) (ss : List α) (i : Nat) :
    (St.ofSamples n ss).den o i = (chunks n ss).getD i o.eq := by
  rw [chunks_eq n ss]
  by_cases h : 0 < n ∧ n ≤ ss.length <;> simp [St.ofSamples, St.den, takeFrame, h]

theorem ofSamples_len (n : Nat) (ss : List α) : (St.ofSamples n ss).len = some (ss.length / n) := by
  rw [Nat.div_eq ss.length n]
  by_cases h : 0 < n ∧ n ≤ ss.length <;> simp [St.ofSamples, St.len, takeFrame, h]

theorem next_fst (o : Ops α) (s : St α) : (next o s).1 = s.den o 0 := by
  induction s with
  | fromIter slot rest c p => cases slot <;> rfl
  | fromSamples n slot rest c p => cases slot <;> rfl
  | delay k s ih => cases k <;> simp only [next, St.den, ih] <;> rfl
  | _ => simp only [next, St.den, Nat.add_zero, *]

theorem next_den (o : Ops α) (s : St α) (i : Nat) : (next o s).2.den o i = s.den o (i + 1) := by
  induction s generalizing i with
  | fromIter slot rest c p =>
    cases slot with
    | none => rfl
    | some f => cases rest <;> rfl
  | fromSamples n slot rest c p =>
    cases slot with
    | none => rfl
    | some f => exact ofSamples_den o n rest i  -- refilled as `ofSamples` fills the slot; the counters are not read
  | gen f p => simp only [next, St.den]; congr 1; omega
  | delay k s ih =>
    cases k with
    | zero => simp only [next, St.den, ih]; rfl
    | succ k => simp only [next, St.den, Nat.add_lt_add_iff_right, Nat.add_sub_add_right]
  | _ => simp only [next, St.den, *]

theorem minLen_eq_zero_iff (x y : Option Nat) : minLen x y = some 0 ↔ x = some 0 ∨ y = some 0 := by
  cases x <;> cases y <;> simp [minLen] <;> omega

theorem exhausted_iff (s : St α) : isExhausted s = true ↔ s.len = some 0 := by
  induction s with
  | fromIter slot rest c p => cases slot <;> simp [isExhausted, St.len]
  | fromSamples n slot rest c p => cases slot <;> simp [isExhausted, St.len]
  | equilibrium p => simp [isExhausted, St.len]
  | gen f p => simp [isExhausted, St.len]
  | bin b a c iha ihc => simp only [isExhausted, St.len, Bool.or_eq_true, iha, ihc, minLen_eq_zero_iff]
  | delay k s ih =>
    simp only [isExhausted, St.len, Bool.and_eq_true, beq_iff_eq, ih]
    cases s.len <;> simp <;> omega
  | _ => simpa only [isExhausted, St.len]

theorem minLen_pred (x y : Option Nat) :
    minLen (x.map (· - 1)) (y.map (· - 1)) = (minLen x y).map (· - 1) := by
  cases x <;> cases y <;> try rfl
  exact congrArg some (Nat.sub_min_sub_right ..)

theorem next_len (o : Ops α) (s : St α) : (next o s).2.len = s.len.map (· - 1) := by
  induction s with
  | fromIter slot rest c p =>
    cases slot with
    | none => rfl
    | some f => cases rest <;> rfl
  | fromSamples n slot rest c p =>
    cases slot with
    | none => rfl
    | some f => exact ofSamples_len n rest
  | equilibrium p => rfl
  | gen f p => rfl
  | bin b a c iha ihc => simp only [next, St.len, iha, ihc, minLen_pred]
  | delay k s ih =>
    cases k with
    | zero => simp only [next, St.len, ih]; cases s.len <;> rfl
    | succ k => simp only [next, St.len]; cases s.len <;> simp
  | _ => simpa only [next, St.len]

theorem run_succ (o : Ops α) (j : Nat) (s : St α) :
    run o (j + 1) s = ((next o s).1 :: (run o j (next o s).2).1, (run o j (next o s).2).2) := rfl

theorem run_outputs (o : Ops α) (j : Nat) (s : St α) : (run o j s).1 = (List.range j).map (s.den o) := by
  induction j generalizing s with
  | zero => simp [run]
  | succ j ih =>
    rw [run_succ, ih, next_fst, List.range_succ_eq_map]
    simp [next_den, Function.comp_def]

theorem run_den (o : Ops α) (j : Nat) (s : St α) (i : Nat) : (run o j s).2.den o i = s.den o (j + i) := by
  induction j generalizing s with
  | zero => simp [run]
  | succ j ih => rw [run_succ, ih, next_den]; congr 1; omega

theorem run_len (o : Ops α) (j : Nat) (s : St α) : (run o j s).2.len = s.len.map (· - j) := by
  induction j generalizing s with
  | zero => simp [run]
  | succ j ih => rw [run_succ, ih, next_len]; cases s.len <;> simp; omega

theorem run_exhausted (o : Ops α) (j : Nat) (s : St α) :
    isExhausted (run o j s).2 = true ↔ ∃ l, s.len = some l ∧ l ≤ j := by
  rw [exhausted_iff, run_len]; cases s.len <;> simp; omega

theorem run_add (o : Ops α) (i j : Nat) (s : St α) :
    (run o (i + j) s).2 = (run o j (run o i s).2).2 := by
  induction i generalizing s with
  | zero => simp [run]
  | succ i ih => rw [Nat.add_right_comm, run_succ, run_succ]; exact ih _

theorem run_succ_snd (o : Ops α) (j : Nat) (s : St α) : (run o (j + 1) s).2 = (next o (run o j s).2).2 := by
  rw [run_add o j 1 s]; rfl

/-! ### lock-step: `run` goes through every adaptor constructor, so the reached state can be read off

The counters, logs and borrowed signals of the state after `j` calls follow from these equations by
one induction over the tree each; no step lemma is needed for them. -/

theorem run_un (o : Ops α) (u : Un α) (j : Nat) (s : St α) :
    (run o j (.un u s)).2 = .un u (run o j s).2 := by
  induction j generalizing s with
  | zero => rfl
  | succ j ih => exact ih _

theorem run_bin (o : Ops α) (b : Bin α) (j : Nat) (a c : St α) :
    (run o j (.bin b a c)).2 = .bin b (run o j a).2 (run o j c).2 := by
  induction j generalizing a c with
  | zero => rfl
  | succ j ih => exact ih _ _

theorem run_inspect (o : Ops α) (j : Nat) (log : List (List α)) (s : St α) :
    (run o j (.inspect log s)).2 = .inspect (log ++ (run o j s).1) (run o j s).2 := by
  induction j generalizing log s with
  | zero => simp [run]
  | succ j ih => rw [run_succ, run_succ]; simp only [next]; rw [ih]; simp

theorem run_delay (o : Ops α) (j k : Nat) (s : St α) :
    (run o j (.delay k s)).2 = .delay (k - j) (run o (j - k) s).2 := by
  induction j generalizing k s with
  | zero => simp [run]
  | succ j ih =>
    cases k with
    | zero => rw [run_succ]; simp only [next]; rw [ih]; simp [run_succ]
    | succ k => rw [run_succ]; simp only [next]; rw [ih]; simp

theorem run_byRef (o : Ops α) (j : Nat) (s : St α) :
    (run o j (.byRef s)).2 = .byRef (run o j s).2 := by
  induction j generalizing s with
  | zero => rfl
  | succ j ih => exact ih _

theorem run_gen (o : Ops α) (f : Nat → List α) (j p : Nat) : (run o j (.gen f p)).2 = .gen f (p + j) := by
  induction j generalizing p with
  | zero => rfl
  | succ j ih => rw [run_succ]; simp only [next]; rw [ih, Nat.add_right_comm, Nat.add_assoc]

theorem run_equilibrium (o : Ops α) (j p : Nat) : (run o j (.equilibrium p)).2 = .equilibrium (p + j) := by
  induction j generalizing p with
  | zero => rfl
  | succ j ih => rw [run_succ]; simp only [next]; rw [ih, Nat.add_right_comm, Nat.add_assoc]

/-- `Iterator::next` calls an iterator-backed source will still make: one per item left and one for the
    `None`, none once the slot is empty (the source never asks again) -/
def pend {β γ : Type} (slot : Option β) (rest : List γ) : Nat := if slot.isSome then rest.length + 1 else 0

/-- refilling the slot makes exactly the calls that become no longer pending -/
theorem pend_takeFrame (n : Nat) (rest : List α) :
    (takeFrame n rest).2.2 + pend (takeFrame n rest).1 (takeFrame n rest).2.1 = rest.length + 1 := by
  unfold takeFrame; split <;> simp [pend]; omega

theorem pend_head_tail (fs : List (List α)) : 1 + pend fs.head? fs.tail = fs.length + 1 := by
  cases fs <;> simp [pend]; omega

/-- a `from_iter` source stays one, counts its pulls, and calls made + calls pending is constant -/
theorem run_fromIter (o : Ops α) (j : Nat) (slot : Option (List α)) (rest : List (List α)) (c p : Nat) :
    ∃ slot' rest' c', (run o j (.fromIter slot rest c p)).2 = .fromIter slot' rest' c' (p + j) ∧
      c' + pend slot' rest' = c + pend slot rest := by
  induction j generalizing slot rest c p with
  | zero => exact ⟨slot, rest, c, rfl, rfl⟩
  | succ j ih =>
    rw [run_succ, ← Nat.add_assoc p, Nat.add_right_comm p]
    cases slot with
    | none => exact ih none rest c (p + 1)
    | some f =>
      obtain ⟨s', r', c', h, hc⟩ := ih rest.head? rest.tail (c + 1) (p + 1)
      exact ⟨s', r', c', h, by rw [hc, Nat.add_assoc, pend_head_tail]; rfl⟩

theorem run_fromSamples (o : Ops α) (j n : Nat) (slot : Option (List α)) (rest : List α) (c p : Nat) :
    ∃ slot' rest' c', (run o j (.fromSamples n slot rest c p)).2 = .fromSamples n slot' rest' c' (p + j) ∧
      c' + pend slot' rest' = c + pend slot rest := by
  induction j generalizing slot rest c p with
  | zero => exact ⟨slot, rest, c, rfl, rfl⟩
  | succ j ih =>
    rw [run_succ, ← Nat.add_assoc p, Nat.add_right_comm p]
    cases slot with
    | none => exact ih none rest c (p + 1)
    | some f =>
      obtain ⟨s', r', c', h, hc⟩ := ih (takeFrame n rest).1 (takeFrame n rest).2.1 (c + (takeFrame n rest).2.2) (p + 1)
      exact ⟨s', r', c', h, by rw [hc, Nat.add_assoc, pend_takeFrame]; rfl⟩

theorem run_pulls (o : Ops α) (j : Nat) (t : St α) : (run o j t).2.pulls = t.pullsAfter j := by
  induction t generalizing j with
  | fromIter slot rest c p => obtain ⟨_, _, _, h, _⟩ := run_fromIter o j slot rest c p; rw [h]; rfl
  | fromSamples n slot rest c p => obtain ⟨_, _, _, h, _⟩ := run_fromSamples o j n slot rest c p; rw [h]; rfl
  | _ => simp only [run_un, run_bin, run_inspect, run_delay, run_byRef, run_gen, run_equilibrium,
      St.pulls, St.pullsAfter, *]

theorem run_logs (o : Ops α) (j : Nat) (t : St α) : (run o j t).2.logs = t.logsAfter o j := by
  induction t generalizing j with
  | fromIter slot rest c p => obtain ⟨_, _, _, h, _⟩ := run_fromIter o j slot rest c p; rw [h]; rfl
  | fromSamples n slot rest c p => obtain ⟨_, _, _, h, _⟩ := run_fromSamples o j n slot rest c p; rw [h]; rfl
  | _ => simp only [run_un, run_bin, run_inspect, run_delay, run_byRef, run_gen, run_equilibrium, run_outputs,
      St.logs, St.logsAfter, *]

theorem run_borrows (o : Ops α) (j : Nat) (t : St α) : (run o j t).2.borrows = t.borrowsAfter o j := by
  induction t generalizing j with
  | fromIter slot rest c p => obtain ⟨_, _, _, h, _⟩ := run_fromIter o j slot rest c p; rw [h]; rfl
  | fromSamples n slot rest c p => obtain ⟨_, _, _, h, _⟩ := run_fromSamples o j n slot rest c p; rw [h]; rfl
  | _ => simp only [run_un, run_bin, run_inspect, run_delay, run_byRef, run_gen, run_equilibrium,
      St.borrows, St.borrowsAfter, *]

theorem borrowsAfter_length (o : Ops α) (s : St α) (j : Nat) : (s.borrowsAfter o j).length = s.borrows.length := by
  induction s generalizing j with
  | bin b a c iha ihc => simp only [St.borrowsAfter, St.borrows, List.length_append, iha, ihc]
  | un u s ih | inspect log s ih | delay k s ih => exact ih _
  | _ => rfl

/-- expected pull counters of the expression's own sources after `j` calls on the root -/
def Sig.pullsAfter : Sig α → Nat → List Nat
  | .fromIter _, j => [j]
  | .fromSamples _ _, j => [j]
  | .equilibrium, j => [j]
  | .gen _, j => [j]
  | .map _ s, j => s.pullsAfter j
  | .zipMap _ a b, j => a.pullsAfter j ++ b.pullsAfter j
  | .addAmp a b, j => a.pullsAfter j ++ b.pullsAfter j
  | .mulAmp a b, j => a.pullsAfter j ++ b.pullsAfter j
  | .scaleAmp _ s, j => s.pullsAfter j
  | .offsetAmp _ s, j => s.pullsAfter j
  | .scaleAmpPerChannel _ s, j => s.pullsAfter j
  | .offsetAmpPerChannel _ s, j => s.pullsAfter j
  | .clipAmp _ s, j => s.pullsAfter j
  | .inspect s, j => s.pullsAfter j
  | .delay k s, j => s.pullsAfter (j - k)
  | .byRef _, _ => []

theorem ofIter_den (o : Ops α) (fs : List (List α)) (i : Nat) : (St.ofIter fs).den o i = fs.getD i o.eq := by
  cases fs <;> simp [St.ofIter, St.den]

theorem ofIter_len (fs : List (List α)) : (St.ofIter fs : St α).len = some fs.length := by
  cases fs <;> simp [St.ofIter, St.len]

theorem init_den (o : Ops α) (s : Sig α) : s.init.den o = s.den o := by
  funext i
  induction s generalizing i with
  | fromIter fs => exact ofIter_den o fs i
  | fromSamples n ss => exact ofSamples_den o n ss i
  | _ => simp only [Sig.init, St.den, Sig.den, Un.apply, Bin.apply, Nat.zero_add, *]

theorem init_outputs (o : Ops α) (s : Sig α) (j : Nat) :
    (run o j s.init).1 = (List.range j).map (s.den o) := by rw [run_outputs, init_den]

theorem init_len (s : Sig α) : s.init.len = s.len := by
  induction s with
  | fromIter fs => exact ofIter_len fs
  | fromSamples n ss => exact ofSamples_len n ss
  | _ => simp only [Sig.init, St.len, Sig.len, *]

theorem init_pullsAfter (s : Sig α) (j : Nat) : s.init.pullsAfter j = s.pullsAfter j := by
  induction s generalizing j with
  | _ => simp only [Sig.init, St.ofIter, St.ofSamples, St.pullsAfter, Sig.pullsAfter, Nat.zero_add, *]

theorem runOpt_succ {σ β : Type} (step : σ → Option β × σ) (j : Nat) (s : σ) :
    runOpt step (j + 1) s = ((step s).1 :: (runOpt step j (step s).2).1, (runOpt step j (step s).2).2) := rfl

/-- frame `i` is one of the `l` meaningful ones (`none`: all are) -/
def live : Option Nat → Nat → Bool
  | none, _ => true
  | some l, i => decide (i < l)

theorem take_run (o : Ops α) (m n : Nat) (s : St α) :
    runOpt (TakeSt.next o) m ⟨n, s⟩ =
      ((List.range m).map (fun i => if i < n then some (s.den o i) else none), ⟨n - m, (run o (min n m) s).2⟩) := by
  induction m generalizing n s with
  | zero => simp [runOpt, run]
  | succ m ih =>
    rw [runOpt_succ, List.range_succ_eq_map]
    cases n with
    | zero => simp [TakeSt.next, ih, run]
    | succ n => simp [TakeSt.next, ih, next_fst, next_den, Function.comp_def, Nat.succ_min_succ, run_succ]

theorem untilNext_done (o : Ops α) {s : St α} (h : isExhausted s = true) : untilNext o s = (none, s) := if_pos h

theorem untilNext_live (o : Ops α) {s : St α} (h : ¬ isExhausted s = true) :
    untilNext o s = (some (next o s).1, (next o s).2) := if_neg h

theorem live_zero {l : Option Nat} (hl : l ≠ some 0) : live l 0 = true := by
  cases l with
  | none => rfl
  | some l => exact decide_eq_true (Nat.pos_of_ne_zero fun h => hl (h ▸ rfl))

theorem live_pred {l : Option Nat} (hl : l ≠ some 0) (i : Nat) : live (l.map (· - 1)) i = live l (i + 1) := by
  cases l with
  | none => rfl
  | some l => exact decide_eq_decide.mpr (by have : l ≠ 0 := fun h => hl (h ▸ rfl); simp only []; omega)

theorem until_run (o : Ops α) (m : Nat) (s : St α) :
    runOpt (untilNext o) m s =
      ((List.range m).map (fun i => if live s.len i then some (s.den o i) else none),
       (run o (match s.len with | none => m | some l => min l m) s).2) := by
  induction m generalizing s with
  | zero => cases s.len <;> simp [runOpt, run]
  | succ m ih =>
    rw [runOpt_succ, List.range_succ_eq_map]
    by_cases hx : isExhausted s = true
    · -- `None`, the state unchanged, hence `None` again at every later call
      simp [untilNext_done o hx, ih, (exhausted_iff s).mp hx, live]
    · have hl : s.len ≠ some 0 := fun h => hx ((exhausted_iff s).mpr h)
      simp only [untilNext_live o hx, ih, next_len, next_fst, next_den, live_zero hl, live_pred hl, List.map_cons,
        List.map_map, Function.comp_def, if_true]
      cases hs : s.len with
      | none => rfl
      | some l =>
        have : l ≠ 0 := fun h0 => hl (h0 ▸ hs)
        show (_, (run o (min (l - 1) m) _).2) = (_, (run o (min l (m + 1)) s).2)
        rw [show min l (m + 1) = min (l - 1) m + 1 by omega]; rfl

/-- what an `IntoInterleavedSamples` still has to yield: the rest of the current frame, then every
    remaining frame of the signal, flattened -/
def ILSt.flat (o : Ops α) (t : ILSt α) (L : Nat) : List α :=
  t.cur.getD [] ++ ((List.range L).map (t.sig.den o)).flatten

theorem nextSample_done (o : Ops α) {c : Option (List α)} (hc : c = none ∨ c = some []) {s : St α}
    (hx : isExhausted s = true) : ILSt.nextSample o ⟨c, s⟩ = (none, ⟨none, s⟩) := by
  rcases hc with rfl | rfl <;> simp [ILSt.nextSample, ILSt.refill, hx]

theorem nextSample_pull (o : Ops α) {c : Option (List α)} (hc : c = none ∨ c = some []) {s : St α}
    (hx : isExhausted s = false) {x : α} {r : List α} (hd : (next o s).1 = x :: r) :
    ILSt.nextSample o ⟨c, s⟩ = (some x, ⟨some r, (next o s).2⟩) := by
  rcases hc with rfl | rfl <;> simp [ILSt.nextSample, ILSt.refill, hx, hd]

/-- `L` meaningful frames are left in `s`, none of them empty -/
def Ready (o : Ops α) (s : St α) (L : Nat) : Prop := s.len = some L ∧ ∀ i, i < L → s.den o i ≠ []

theorem il_fresh (o : Ops α) (c : Option (List α)) (hc : c = none ∨ c = some []) (s : St α) (L : Nat)
    (h : Ready o s L) :
    Ready o (ILSt.nextSample o ⟨c, s⟩).2.sig (L - 1) ∧
      (ILSt.nextSample o ⟨c, s⟩).1 = (ILSt.flat o ⟨c, s⟩ L).head? ∧
      (ILSt.nextSample o ⟨c, s⟩).2.flat o (L - 1) = (ILSt.flat o ⟨c, s⟩ L).tail := by
  have hcur : c.getD [] = [] := by rcases hc with rfl | rfl <;> rfl
  obtain ⟨hlen, hne⟩ := h
  cases L with
  | zero =>
    rw [nextSample_done o hc ((exhausted_iff s).mpr hlen)]
    exact ⟨⟨hlen, hne⟩, by simp [ILSt.flat, hcur], by simp [ILSt.flat, hcur]⟩
  | succ L =>
    have hx : isExhausted s = false :=
      Bool.eq_false_iff.mpr fun h => by rw [(exhausted_iff s).mp h] at hlen; cases hlen
    obtain ⟨x, r, hd⟩ := List.exists_cons_of_ne_nil (hne 0 (Nat.succ_pos L))
    rw [nextSample_pull o hc hx ((next_fst o s).trans hd)]
    refine ⟨⟨by rw [next_len, hlen]; rfl, fun i hi => by rw [next_den]; exact hne (i + 1) (by omega)⟩, ?_, ?_⟩
    · simp [ILSt.flat, hcur, List.range_succ_eq_map, hd]
    · simp [ILSt.flat, hcur, List.range_succ_eq_map, hd, funext (next_den o s), Function.comp_def]

/-- one `next_sample` call yields the head of what is left and leaves the tail -/
theorem il_step (o : Ops α) (t : ILSt α) (L : Nat) (h : Ready o t.sig L) :
    ∃ L', Ready o (t.nextSample o).2.sig L' ∧ (t.nextSample o).1 = (t.flat o L).head? ∧
      (t.nextSample o).2.flat o L' = (t.flat o L).tail := by
  obtain ⟨cur, s⟩ := t
  match cur with
  | none => exact ⟨_, il_fresh o none (Or.inl rfl) s L h⟩
  | some [] => exact ⟨_, il_fresh o (some []) (Or.inr rfl) s L h⟩
  | some (x :: r) =>
    exact ⟨L, h, by simp [ILSt.nextSample, ILSt.refill, ILSt.flat], by simp [ILSt.nextSample, ILSt.refill, ILSt.flat]⟩

theorem il_run (o : Ops α) (m : Nat) (t : ILSt α) (L : Nat) (h : Ready o t.sig L) :
    (runOpt (ILSt.nextSample o) m t).1 = (List.range m).map fun i => (t.flat o L)[i]? := by
  induction m generalizing t L with
  | zero => simp [runOpt]
  | succ m ih =>
    obtain ⟨L', h1, h3, h4⟩ := il_step o t L h
    rw [runOpt_succ, ih _ L' h1, h3, h4, List.range_succ_eq_map]
    simp [Function.comp_def, List.head?_eq_getElem?]

theorem stack_len (us : List (Un α)) (t : St α) : (us.foldr St.un t).len = t.len := by
  induction us with
  | nil => rfl
  | cons u us ih => exact ih

theorem stack_den (o : Ops α) (us : List (Un α)) (t : St α) (i : Nat) :
    (us.foldr St.un t).den o i = us.foldr (fun u f => u.apply o f) (t.den o i) := by
  induction us with
  | nil => rfl
  | cons u us ih => exact congrArg (u.apply o) ih

end Dasp.Signal
