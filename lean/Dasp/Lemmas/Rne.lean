import Dasp.Machine.FP
import Mathlib.Algebra.Order.Floor.Ring
import Mathlib.Data.Rat.Floor
import Mathlib.Tactic.Linarith
import Mathlib.Tactic.Ring
/-!
# `Machine/FP.rne`: the nearest integer, ties to the even one

`rne_spec`: within ½ of the argument, and even at a tie; `rne_unique`: the only such integer, which gives `rne` at particular
arguments (`rne_int`, `rne_neg`, `rne_small`).
-/

namespace Dasp

theorem rat_floor_eq (x : Rat) : x.floor = ⌊x⌋ := rfl

theorem rne_cases (x : Rat) :
    (rne x = x.floor ∧ x - x.floor ≤ 1/2 ∧ (x - x.floor = 1/2 → x.floor % 2 = 0)) ∨
    (rne x = x.floor + 1 ∧ 1/2 ≤ x - x.floor ∧ (x - x.floor = 1/2 → x.floor % 2 = 1)) := by
  unfold rne
  simp only
  split_ifs with a b c
  · exact Or.inl ⟨rfl, a.le, fun h => absurd h a.ne⟩
  · exact Or.inr ⟨rfl, b.le, fun h => absurd h.symm b.ne⟩
  · exact Or.inl ⟨rfl, not_lt.mp b, fun _ => c⟩
  · exact Or.inr ⟨rfl, not_lt.mp a, fun _ => by omega⟩

theorem near_lo {x f : ℚ} (h1 : f ≤ x) (a : x - f ≤ 1/2) :
    (x - 1/2 ≤ f ∧ f ≤ x + 1/2) ∧ (f = x - 1/2 ∨ f = x + 1/2 → x - f = 1/2) :=
  ⟨⟨sub_le_comm.mp a, h1.trans (le_add_of_nonneg_right (by norm_num))⟩, fun h => by
    rcases h with h | h
    · rw [h, sub_sub_cancel]
    · exact absurd (h ▸ h1) (not_le.mpr (lt_add_of_pos_right x (by norm_num)))⟩

theorem near_hi {x f : ℚ} (h2 : x < f + 1) (a : 1/2 ≤ x - f) :
    (x - 1/2 ≤ f + 1 ∧ f + 1 ≤ x + 1/2) ∧ (f + 1 = x - 1/2 ∨ f + 1 = x + 1/2 → x - f = 1/2) :=
  ⟨⟨(sub_le_self x (by norm_num)).trans h2.le, by linarith⟩, fun h => by
    rcases h with h | h
    · exact absurd (h ▸ h2) (not_lt.mpr (sub_le_self x (by norm_num)))
    · linarith⟩

theorem rne_spec (x : Rat) :
    (x - 1/2 ≤ rne x ∧ (rne x : Rat) ≤ x + 1/2) ∧ (((rne x : Rat) = x - 1/2 ∨ (rne x : Rat) = x + 1/2) → rne x % 2 = 0) := by
  rcases rne_cases x with ⟨e, a, c⟩ | ⟨e, a, c⟩ <;> rw [e]
  · obtain ⟨b, t⟩ := near_lo (Int.floor_le x) a
    exact ⟨b, fun h => c (t h)⟩
  · rw [Int.cast_add, Int.cast_one]
    obtain ⟨b, t⟩ := near_hi (Int.lt_floor_add_one x) a
    exact ⟨b, fun h => by have := c (t h); omega⟩

/-- two integers within a half of `x` are at most one apart, and if one apart they are the two ties -/
theorem half_window {x : ℚ} {m n : ℤ} (hm : x - 1/2 ≤ m) (hn : (n : ℚ) ≤ x + 1/2) :
    n ≤ m + 1 ∧ (n = m + 1 → (m : ℚ) = x - 1/2 ∧ (n : ℚ) = x + 1/2) := by
  -- the window has length one
  rw [show x + 1/2 = x - 1/2 + 1 by ring] at hn ⊢
  refine ⟨by exact_mod_cast hn.trans (add_le_add_left hm 1), fun h => ?_⟩
  have h : (n : ℚ) = m + 1 := by exact_mod_cast h
  have hm' : (m : ℚ) = x - 1/2 := le_antisymm (le_of_add_le_add_right (h ▸ hn)) hm
  exact ⟨hm', by rw [h, hm']⟩

theorem rne_unique {x : ℚ} {n : ℤ} (h1 : x - 1/2 ≤ n) (h2 : (n : ℚ) ≤ x + 1/2)
    (he : (n : ℚ) = x - 1/2 ∨ (n : ℚ) = x + 1/2 → n % 2 = 0) : rne x = n := by
  obtain ⟨⟨a1, a2⟩, ae⟩ := rne_spec x
  obtain ⟨l, lt⟩ := half_window h1 a2
  obtain ⟨u, ut⟩ := half_window a1 h2
  by_contra hne
  -- one apart: both are ties, hence both even
  rcases (by omega : rne x = n + 1 ∨ n = rne x + 1) with h | h
  · obtain ⟨t1, t2⟩ := lt h
    have := ae (Or.inr t2); have := he (Or.inl t1); omega
  · obtain ⟨t1, t2⟩ := ut h
    have := ae (Or.inl t1); have := he (Or.inr t2); omega

theorem rne_mono {x y : Rat} (h : x ≤ y) : rne x ≤ rne y := by
  obtain ⟨⟨_, x2⟩, _⟩ := rne_spec x
  obtain ⟨⟨y1, _⟩, _⟩ := rne_spec y
  obtain ⟨l, t⟩ := half_window y1 (x2.trans (add_le_add_left h _))
  by_contra hlt
  -- one apart: `rne x = y + 1/2 ≤ x + 1/2`, so `x = y`
  obtain rfl : x = y := h.antisymm (le_of_add_le_add_right ((t (by omega)).2.ge.trans x2))
  omega

/-- strictly within a half there is no tie to break -/
theorem rne_of_lt {x : ℚ} {n : ℤ} (h1 : x - 1/2 < n) (h2 : (n : ℚ) < x + 1/2) : rne x = n :=
  rne_unique h1.le h2.le fun h => absurd h (not_or.mpr ⟨h1.ne', h2.ne⟩)

theorem rne_int (n : Int) : rne (n : Rat) = n :=
  rne_of_lt (sub_lt_self _ (by norm_num)) (lt_add_of_pos_right _ (by norm_num))

theorem rne_neg (x : Rat) : rne (-x) = - rne x := by
  obtain ⟨⟨a1, a2⟩, ae⟩ := rne_spec x
  -- the window of `−x` is the mirror image of the window of `x`
  have e1 : -x - 1/2 = -(x + 1/2) := by ring
  have e2 : -x + 1/2 = -(x - 1/2) := by ring
  refine rne_unique ?_ ?_ fun h => ?_
  · rw [Int.cast_neg, e1]; exact neg_le_neg a2
  · rw [Int.cast_neg, e2]; exact neg_le_neg a1
  · rw [Int.cast_neg, e1, e2, neg_inj, neg_inj] at h
    have := ae h.symm; omega

theorem rne_small {x : ℚ} (h0 : 0 ≤ x) (h1 : x < 1/2) : rne x = 0 :=
  rne_of_lt (by linarith) (by linarith)

theorem rne_nonneg {x : ℚ} (h : 0 ≤ x) : 0 ≤ rne x := (rne_small le_rfl (by norm_num)).ge.trans (rne_mono h)

end Dasp
