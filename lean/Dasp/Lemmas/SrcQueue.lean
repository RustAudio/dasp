import Dasp.Model.SrcQueue
/-!
# `push` below capacity, and runs of consecutive source frames — core Lean only

`(List.range' b n).map f` — the frames `f b, …, f (b + n − 1)` — is how Fork's queue, the bus backlog and
Buffered's refill are described; the facts about growing, indexing and trimming such a run are here.
-/
namespace Dasp.SrcQueue

variable {α : Type}

theorem push_of_ne {q : List α} {cap : Nat} (x : α) (h : q.length ≠ cap) : push q cap x = q ++ [x] :=
  if_neg h

theorem run_snoc (f : Nat → α) (b n : Nat) :
    (List.range' b n).map f ++ [f (b + n)] = (List.range' b (n + 1)).map f := by
  rw [List.range'_concat, List.map_append, Nat.one_mul]; rfl

theorem run_getD (f : Nat → α) (b n i : Nat) (d : α) (h : i < n) :
    ((List.range' b n).map f).getD i d = f (b + i) := by
  simp [List.getD, List.getElem?_range' h]

theorem run_drop (f : Nat → α) (b n k : Nat) :
    ((List.range' b n).map f).drop k = (List.range' (b + k) (n - k)).map f := by
  rw [← List.map_drop, List.drop_range', Nat.mul_one]

end Dasp.SrcQueue
