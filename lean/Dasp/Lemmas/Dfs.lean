import Dasp.Model.Graph
/-!
# DFS post-order lemmas for `Dasp.Graph.run` (petgraph 0.5.1 `DfsPostOrder` as driven by `dasp_graph::process`)

Core Lean only.  `run_emits_reachable` = T1 (emitted set = nodes reachable from the root) ∧ T2 (each once);
`run_postorder` = T3 (post-order whenever nothing reachable from the root lies on a cycle), stated with
`Ordered`/`Before`; `Props/C09` takes T3 in the prefix form `run_neighbours_first`.
Two invariants of `step`, both carried by `run_inv`.  `Inv` holds for every graph; its field `k0` is
"every neighbour of a discovered node is discovered or on the stack" (T1 once the stack is empty).
`InvDag` needs `AcyclicFrom`: `nbr_fin_or_above` is "every neighbour of a discovered, unfinished node is
finished or above its topmost occurrence on the stack" (T3), `above_reach` is "entries above a discovered,
unfinished node are reachable from it" (a neighbour found discovered and unfinished would close a cycle), `ord`
is T3 itself.
-/
namespace Dasp.Graph

theorem vis_of_ge {m : VMap} {i : Nat} (h : m.length ≤ i) : vis m i = true := by
  simp [vis, List.getD, List.getElem?_eq_none h]

theorem vis_false_lt {m : VMap} {i : Nat} (h : vis m i = false) : i < m.length :=
  Nat.lt_of_not_le fun hc => Bool.noConfusion ((vis_of_ge hc).symm.trans h)

theorem vis_replicate_false (n d : Nat) : vis (List.replicate n false) d = true ↔ n ≤ d := by
  by_cases h : d < n <;> simp [vis, List.getD, h] <;> omega

/-- `step` only marks indices in range (`vis_false_lt`, `Inv.stk_lt`): exactly that index is added -/
theorem vis_mark_iff {m : VMap} {i : Nat} (h : i < m.length) (j : Nat) :
    vis (mark m i) j = true ↔ vis m j = true ∨ i = j := by
  unfold mark vis
  by_cases hij : i = j
  · subst hij; simp [List.getD, h]
  · simp [List.getD, List.getElem?_set_ne hij, hij]

theorem vis_mark_false {m : VMap} {i j : Nat} (h : i < m.length) (h' : vis (mark m i) j = false) :
    vis m j = false ∧ i ≠ j := by
  refine ⟨Bool.eq_false_iff.mpr fun hv => ?_, fun e => ?_⟩
  · rw [(vis_mark_iff h j).mpr (.inl hv)] at h'; cases h'
  · rw [(vis_mark_iff h j).mpr (.inr e)] at h'; cases h'

theorem mark_of_vis {m : VMap} {i : Nat} (h : vis m i = true) : mark m i = m := by
  unfold mark vis at *
  by_cases hl : i < m.length
  · simp [List.getD, hl] at h
    simp [← h]
  · simp [List.set_eq_of_length_le (Nat.le_of_not_lt hl)]

theorem run_induct (g : G) (P : St → Prop) (hstep : ∀ s s', P s → step g s = some s' → P s') :
    ∀ s, P s → P (run g s) := by
  intro s
  fun_induction run g s with
  | case1 s h => intro hp; exact hp
  | case2 s s' h ih => intro hp; exact ih (hstep s s' hp h)

theorem run_eq (g : G) (s : St) : run g s = match step g s with | none => s | some s' => run g s' := by
  rw [run]
  split <;> simp_all

theorem step_eq_none_iff {g : G} {s : St} : step g s = none ↔ s.stack = [] := by
  unfold step
  split
  · simp [*]
  · split <;> (try split) <;> simp [*]

theorem run_stack_nil (g : G) (s : St) : (run g s).stack = [] := by
  fun_induction run g s with
  | case1 s h => exact step_eq_none_iff.mp h
  | case2 s s' h ih => exact ih

/-- the two kinds of step.  A pop of a discovered node finishes it, and emits it unless it was finished
    already (`mark` changes nothing then); an undiscovered node is marked and its undiscovered neighbours pushed. -/
theorem step_cases (g : G) (s s' : St) (h : step g s = some s') :
    ∃ nx rest, s.stack = nx :: rest ∧
      ((vis s.disc nx = true ∧ s' = { s with stack := rest, fin := mark s.fin nx,
                                              out := if vis s.fin nx then s.out else s.out ++ [nx] }) ∨
       (vis s.disc nx = false ∧
          s' = { s with stack := (pushList (g.adj nx) (mark s.disc nx)).reverse ++ s.stack, disc := mark s.disc nx })) := by
  unfold step at h
  split at h
  · simp at h
  · rename_i nx rest hs
    refine ⟨nx, rest, hs, ?_⟩
    by_cases hd : vis s.disc nx = true
    · by_cases hf : vis s.fin nx = true
      · simp [hd, hf] at h; exact Or.inl ⟨hd, by rw [mark_of_vis hf, if_pos hf]; exact h.symm⟩
      · simp [hd, hf] at h; exact Or.inl ⟨hd, by rw [if_neg hf]; exact h.symm⟩
    · simp [hd] at h; exact Or.inr ⟨by simpa using hd, h.symm⟩

theorem mem_pushList {adj : List Nat} {disc : VMap} {w : Nat} : w ∈ pushList adj disc ↔ w ∈ adj ∧ vis disc w = false := by
  simp [pushList, List.mem_filter]

theorem step_length {g : G} {s s' : St} (h : step g s = some s') :
    s'.disc.length = s.disc.length ∧ s'.fin.length = s.fin.length := by
  obtain ⟨nx, rest, _, ⟨_, rfl⟩ | ⟨_, rfl⟩⟩ := step_cases g s s' h <;> simp [mark]

theorem step_stack_lt {g : G} {b : Nat} (hwf : ∀ n, ∀ m ∈ g.adj n, m < b) {s s' : St}
    (hs : ∀ x ∈ s.stack, x < b) (h : step g s = some s') : ∀ x ∈ s'.stack, x < b := by
  obtain ⟨nx, rest, e, ⟨_, rfl⟩ | ⟨_, rfl⟩⟩ := step_cases g s s' h
  · intro x hx; exact hs x (by simp [e, hx])
  · intro x hx
    rcases List.mem_append.mp hx with hx | hx
    · exact hwf nx x (mem_pushList.mp (List.mem_reverse.mp hx)).1
    · exact hs x hx

inductive ReachPlus (g : G) : Nat → Nat → Prop
  | edge {a b : Nat} : b ∈ g.adj a → ReachPlus g a b
  | trans {a b c : Nat} : ReachPlus g a b → c ∈ g.adj b → ReachPlus g a c

def Reach (g : G) (a b : Nat) : Prop := a = b ∨ ReachPlus g a b

theorem Reach.refl (g : G) (a : Nat) : Reach g a a := Or.inl rfl

/-- one more edge after a possibly empty path -/
theorem Reach.plus {g : G} {a b c : Nat} (h : Reach g a b) (hc : c ∈ g.adj b) : ReachPlus g a c := by
  rcases h with rfl | h
  · exact .edge hc
  · exact .trans h hc

theorem Reach.step {g : G} {a b c : Nat} (h : Reach g a b) (hc : c ∈ g.adj b) : Reach g a c :=
  Or.inr (h.plus hc)

theorem reachPlus_iff (g : G) (a c : Nat) : ReachPlus g a c ↔ ∃ b, Reach g a b ∧ c ∈ g.adj b := by
  refine ⟨fun h => ?_, fun ⟨b, h, hc⟩ => h.plus hc⟩
  cases h with
  | edge hb => exact ⟨a, .refl g a, hb⟩
  | trans h hc => exact ⟨_, Or.inr h, hc⟩

/-- `bound` is the length of both visit maps (≥ the graph's node bound: `reset_map` never shrinks a map); with
    `stk_lt` this says that `step` never marks out of range.  No proof below needs `len_d`. -/
structure Inv (g : G) (bound root : Nat) (s : St) : Prop where
  len_d : s.disc.length = bound
  len_f : s.fin.length = bound
  stk_lt : ∀ x ∈ s.stack, x < bound
  fin_disc : ∀ d, vis s.fin d = true → vis s.disc d = true
  on_stack : ∀ d, vis s.disc d = true → vis s.fin d = false → d ∈ s.stack
  k0 : ∀ d, d < bound → vis s.disc d = true → ∀ w ∈ g.adj d, vis s.disc w = true ∨ w ∈ s.stack
  root_seen : vis s.disc root = true ∨ root ∈ s.stack
  reach_stk : ∀ x ∈ s.stack, Reach g root x
  reach_disc : ∀ d, d < bound → vis s.disc d = true → Reach g root d
  out_fin : ∀ n, n ∈ s.out ↔ (n < bound ∧ vis s.fin n = true)
  nodup : s.out.Nodup

theorem inv_start (g : G) (bound root : Nat) (hr : root < bound) : Inv g bound root (start bound root) :=
  -- both maps are all `false`: no index below `bound` counts as visited
  have hv : ∀ d, d < bound → vis (List.replicate bound false) d ≠ true :=
    fun d hd h => Nat.not_le_of_lt hd ((vis_replicate_false bound d).mp h)
  { len_d := List.length_replicate
    len_f := List.length_replicate
    stk_lt := fun _ hx => List.mem_singleton.mp hx ▸ hr
    fin_disc := fun _ h => h
    on_stack := fun _ h1 h2 => Bool.noConfusion (h1.symm.trans h2)
    k0 := fun d hd h => absurd h (hv d hd)
    root_seen := .inr List.mem_cons_self
    reach_stk := fun _ hx => List.mem_singleton.mp hx ▸ .refl g root
    reach_disc := fun d hd h => absurd h (hv d hd)
    out_fin := fun n => ⟨fun h => (List.not_mem_nil h).elim, fun h => absurd h.2 (hv n h.1)⟩
    nodup := List.nodup_nil }

/-- a popped node is discovered, so what was discovered or on the stack still is -/
theorem pop_keeps {s : St} {nx w : Nat} {rest : List Nat} (hs : s.stack = nx :: rest) (hd : vis s.disc nx = true)
    (h : vis s.disc w = true ∨ w ∈ s.stack) : vis s.disc w = true ∨ w ∈ rest :=
  h.elim .inl fun h => (List.mem_cons.mp (hs ▸ h)).elim (fun (e : w = nx) => .inl (e ▸ hd)) .inr

theorem inv_step (g : G) (bound root : Nat) (hwf : ∀ n, ∀ m ∈ g.adj n, m < bound)
    (s s' : St) (hi : Inv g bound root s) (h : step g s = some s') : Inv g bound root s' := by
  have hlen := step_length h
  have hstk := step_stack_lt hwf hi.stk_lt h
  obtain ⟨nx, rest, hs, hcase⟩ := step_cases g s s' h
  have hmem : ∀ x, x ∈ s.stack ↔ x = nx ∨ x ∈ rest := by intro x; rw [hs]; simp
  have hnxstk : nx ∈ s.stack := (hmem nx).mpr (Or.inl rfl)
  rcases hcase with ⟨hd, rfl⟩ | ⟨hd, rfl⟩
  · -- pop
    have hnx : nx < bound := hi.stk_lt nx hnxstk
    have hlt : nx < s.fin.length := hi.len_f ▸ hnx
    refine ⟨hi.len_d, hlen.2.trans hi.len_f, hstk, ?_, ?_, fun d hdb h1 w hw => pop_keeps (s := s) hs hd (hi.k0 d hdb h1 w hw),
      pop_keeps (s := s) hs hd hi.root_seen, fun x hx => hi.reach_stk x ((hmem x).mpr (Or.inr hx)), hi.reach_disc, ?_, ?_⟩
    · intro d h1
      rcases (vis_mark_iff hlt d).mp h1 with h2 | rfl
      · exact hi.fin_disc d h2
      · exact hd
    · intro d h1 h2
      obtain ⟨h2', hne⟩ := vis_mark_false hlt h2
      exact ((hmem d).mp (hi.on_stack d h1 h2')).resolve_left (Ne.symm hne)
    · intro n
      by_cases hf : vis s.fin nx = true
      · rw [if_pos hf, mark_of_vis hf]; exact hi.out_fin n
      · simp only [if_neg hf, List.mem_append, List.mem_singleton, hi.out_fin n, vis_mark_iff hlt n, and_or_left]
        exact or_congr_right ⟨fun e => ⟨e ▸ hnx, e.symm⟩, fun h => h.2.symm⟩
    · by_cases hf : vis s.fin nx = true
      · rw [if_pos hf]; exact hi.nodup
      · rw [if_neg hf]
        refine List.nodup_append.mpr ⟨hi.nodup, by simp, fun a ha b hb hab => ?_⟩
        rw [List.mem_singleton.mp hb] at hab
        exact hf ((hi.out_fin nx).mp (hab ▸ ha)).2
  · -- discover
    have hnew : ∀ x, x ∈ (pushList (g.adj nx) (mark s.disc nx)).reverse ++ s.stack ↔
        (x ∈ g.adj nx ∧ vis (mark s.disc nx) x = false) ∨ x ∈ s.stack := by
      intro x; simp [mem_pushList]
    have hlt := vis_false_lt hd
    refine ⟨hlen.1.trans hi.len_d, hi.len_f, hstk, ?_, ?_, ?_, ?_, ?_, ?_, hi.out_fin, hi.nodup⟩
    · intro d h1; exact (vis_mark_iff hlt d).mpr (.inl (hi.fin_disc d h1))
    · intro d h1 h2
      apply (hnew d).mpr; right
      rcases (vis_mark_iff hlt d).mp h1 with h3 | rfl
      · exact hi.on_stack d h3 h2
      · exact hnxstk
    · intro d hdb h1 w hw
      cases hv : vis (mark s.disc nx) w with
      | true => exact Or.inl rfl
      | false =>
        right; apply (hnew w).mpr
        rcases (vis_mark_iff hlt d).mp h1 with h3 | rfl
        · rcases hi.k0 d hdb h3 w hw with h4 | h4
          · exact absurd h4 (by rw [(vis_mark_false hlt hv).1]; simp)
          · exact Or.inr h4
        · exact Or.inl ⟨hw, hv⟩
    · rcases hi.root_seen with h1 | h1
      · exact Or.inl ((vis_mark_iff hlt root).mpr (.inl h1))
      · exact Or.inr ((hnew root).mpr (Or.inr h1))
    · intro x hx
      rcases (hnew x).mp hx with ⟨h1, _⟩ | h1
      · exact (hi.reach_stk nx hnxstk).step h1
      · exact hi.reach_stk x h1
    · intro d hdb h1
      rcases (vis_mark_iff hlt d).mp h1 with h3 | rfl
      · exact hi.reach_disc d hdb h3
      · exact hi.reach_stk nx hnxstk

/-- stack entries above the topmost occurrence of `d` -/
def above (d : Nat) (stack : List Nat) : List Nat := stack.takeWhile (fun x => x != d)

theorem above_cons_ne {d x : Nat} (rest : List Nat) (h : x ≠ d) : above d (x :: rest) = x :: above d rest := by
  have : (x != d) = true := by simp [h]
  simp [above, List.takeWhile, this]
theorem above_cons_self (d : Nat) (rest : List Nat) : above d (d :: rest) = [] := by
  simp [above, List.takeWhile]
theorem above_append {d : Nat} (l st : List Nat) (h : d ∉ l) : above d (l ++ st) = l ++ above d st := by
  induction l with
  | nil => rfl
  | cons x l ih =>
    have hx : x ≠ d := fun e => h (by simp [e])
    have hl : d ∉ l := fun e => h (by simp [e])
    rw [List.cons_append, above_cons_ne _ hx, ih hl]; rfl

def AcyclicFrom (g : G) (root : Nat) : Prop := ∀ v, Reach g root v → ¬ ReachPlus g v v

def Before (out : List Nat) (w v : Nat) : Prop := ∃ pre post, out = pre ++ v :: post ∧ w ∈ pre
/-- every emitted node comes after all of its neighbours (its inputs, for `process`) -/
def Ordered (g : G) (out : List Nat) : Prop := ∀ v ∈ out, ∀ w ∈ g.adj v, Before out w v

structure InvDag (g : G) (s : St) : Prop where
  nbr_fin_or_above : ∀ d, vis s.disc d = true → vis s.fin d = false →
    ∀ w ∈ g.adj d, vis s.fin w = true ∨ w ∈ above d s.stack
  above_reach : ∀ d, vis s.disc d = true → vis s.fin d = false → ∀ x ∈ above d s.stack, ReachPlus g d x
  ord : ∀ pre v post, s.out = pre ++ v :: post → ∀ w ∈ g.adj v, w ∈ pre

theorem invDag_start (g : G) (bound root : Nat) : InvDag g (start bound root) :=
  -- both maps of `start` are the same list
  ⟨fun _ h1 h2 => Bool.noConfusion (h1.symm.trans h2), fun _ h1 h2 => Bool.noConfusion (h1.symm.trans h2),
    fun pre v post e => by simp [start] at e⟩

theorem invDag_step (g : G) (bound root : Nat) (hwf : ∀ n, ∀ m ∈ g.adj n, m < bound)
    (hac : AcyclicFrom g root) (s s' : St) (hi : Inv g bound root s) (hd' : InvDag g s)
    (h : step g s = some s') : InvDag g s' := by
  obtain ⟨nx, rest, hs, hcase⟩ := step_cases g s s' h
  have hnxstk : nx ∈ s.stack := by rw [hs]; simp
  rcases hcase with ⟨hd, rfl⟩ | ⟨hd, rfl⟩
  · -- pop
    have hlt : nx < s.fin.length := hi.len_f ▸ hi.stk_lt nx hnxstk
    refine ⟨?_, ?_, ?_⟩
    · intro d h1 h2 w hw
      obtain ⟨h2', hne⟩ := vis_mark_false hlt h2
      rcases hd'.nbr_fin_or_above d h1 h2' w hw with h3 | h3
      · exact Or.inl ((vis_mark_iff hlt w).mpr (.inl h3))
      · rw [hs, above_cons_ne _ hne] at h3
        rcases List.mem_cons.mp h3 with rfl | h4
        · exact Or.inl ((vis_mark_iff hlt w).mpr (.inr rfl))
        · exact Or.inr h4
    · intro d h1 h2 x hx
      obtain ⟨h2', hne⟩ := vis_mark_false hlt h2
      apply hd'.above_reach d h1 h2' x
      rw [hs, above_cons_ne _ hne]; exact List.mem_cons_of_mem _ hx
    · by_cases hf : vis s.fin nx = true
      · rw [if_pos hf]; exact hd'.ord
      · rw [if_neg hf]
        -- nx is emitted: all its neighbours already are
        have hall : ∀ w ∈ g.adj nx, w ∈ s.out := by
          intro w hw
          rcases hd'.nbr_fin_or_above nx hd (Bool.eq_false_iff.mpr hf) w hw with h3 | h3
          · exact (hi.out_fin w).mpr ⟨hwf nx w hw, h3⟩
          · rw [hs, above_cons_self] at h3; simp at h3
        intro pre v post e w hw
        rcases List.eq_nil_or_concat post with rfl | ⟨post', z, rfl⟩
        · obtain ⟨rfl, e'⟩ := List.append_inj' e rfl
          cases e'; exact hall w hw
        · rw [List.concat_eq_append, ← List.cons_append, ← List.append_assoc] at e
          exact hd'.ord pre v post' (List.append_inj' e rfl).1 w hw
  · -- discover nx
    have hlt := vis_false_lt hd
    have hP : ∀ x, x ∈ (pushList (g.adj nx) (mark s.disc nx)).reverse ↔ (x ∈ g.adj nx ∧ vis (mark s.disc nx) x = false) := by
      intro x; simp [mem_pushList]
    have hnotP : ∀ d, vis (mark s.disc nx) d = true → d ∉ (pushList (g.adj nx) (mark s.disc nx)).reverse := by
      intro d h1 h2; have := ((hP d).mp h2).2; rw [h1] at this; simp at this
    -- `nx`, undiscovered and on top, lies above every discovered node
    have hab : ∀ d, vis s.disc d = true → nx ∈ above d s.stack := by
      intro d h3
      have hne : nx ≠ d := by rintro rfl; rw [h3] at hd; cases hd
      rw [hs, above_cons_ne _ hne]; exact List.mem_cons_self
    refine ⟨?_, ?_, hd'.ord⟩
    · intro d h1 h2 w hw
      rw [above_append _ _ (hnotP d h1)]
      rcases (vis_mark_iff hlt d).mp h1 with h3 | rfl
      · -- d discovered earlier
        rcases hd'.nbr_fin_or_above d h3 h2 w hw with h4 | h4
        · exact Or.inl h4
        · exact Or.inr (List.mem_append_right _ h4)
      · -- d = nx
        cases hv : vis (mark s.disc nx) w with
        | false => exact Or.inr (List.mem_append_left _ ((hP w).mpr ⟨hw, hv⟩))
        | true =>
          -- w was discovered before (or is nx itself): must be finished, else a cycle
          cases hfw : vis s.fin w with
          | true => exact Or.inl rfl
          | false =>
            exfalso
            have hreach_nx : Reach g root nx := hi.reach_stk nx hnxstk
            rcases (vis_mark_iff hlt w).mp hv with h5 | rfl
            · -- w discovered, unfinished: w reaches nx (above it), and nx → w
              exact hac w (hreach_nx.step hw) (.trans (hd'.above_reach w h5 hfw nx (hab w h5)) hw)
            · exact hac nx hreach_nx (.edge hw)
    · intro d h1 h2 x hx
      rw [above_append _ _ (hnotP d h1)] at hx
      rcases (vis_mark_iff hlt d).mp h1 with h3 | rfl
      · rcases List.mem_append.mp hx with h4 | h4
        · -- x freshly pushed by nx; d reaches nx, nx -> x
          exact .trans (hd'.above_reach d h3 h2 nx (hab d h3)) ((hP x).mp h4).1
        · exact hd'.above_reach d h3 h2 x h4
      · rcases List.mem_append.mp hx with h4 | h4
        · exact .edge ((hP x).mp h4).1
        · rw [hs, above_cons_self] at h4; simp at h4

theorem run_inv (g : G) (bound root : Nat) (hr : root < bound) (hwf : ∀ n, ∀ m ∈ g.adj n, m < bound) :
    Inv g bound root (run g (start bound root)) ∧ (AcyclicFrom g root → InvDag g (run g (start bound root))) :=
  run_induct g (fun s => Inv g bound root s ∧ (AcyclicFrom g root → InvDag g s))
    (fun s s' hp hs => ⟨inv_step g bound root hwf s s' hp.1 hs,
      fun hac => invDag_step g bound root hwf hac s s' hp.1 (hp.2 hac) hs⟩)
    _ ⟨inv_start g bound root hr, fun _ => invDag_start g bound root⟩

/-- T1 + T2: from the start state the run emits exactly the nodes reachable from the root, each once -/
theorem run_emits_reachable (g : G) (bound root : Nat) (hr : root < bound)
    (hwf : ∀ n, ∀ m ∈ g.adj n, m < bound) :
    (∀ n, n ∈ (run g (start bound root)).out ↔ Reach g root n) ∧ (run g (start bound root)).out.Nodup := by
  have hinv := (run_inv g bound root hr hwf).1
  have hnil : ∀ x, x ∉ (run g (start bound root)).stack := by rw [run_stack_nil]; exact fun _ => List.not_mem_nil
  refine ⟨?_, hinv.nodup⟩
  intro n
  constructor
  · intro hn
    have := (hinv.out_fin n).mp hn
    exact hinv.reach_disc n this.1 (hinv.fin_disc n this.2)
  · intro hn
    -- every reachable node is discovered at the end (closure under adj with an empty stack)
    have hroot : vis (run g (start bound root)).disc root = true := hinv.root_seen.resolve_right (hnil root)
    have hclosed : ∀ m, Reach g root m → (m < bound ∧ vis (run g (start bound root)).disc m = true) := by
      intro m hm
      rcases hm with rfl | hm
      · exact ⟨hr, hroot⟩
      · induction hm with
        | edge hb => exact ⟨hwf _ _ hb, (hinv.k0 root hr hroot _ hb).resolve_right (hnil _)⟩
        | trans hab hc ih => exact ⟨hwf _ _ hc, (hinv.k0 _ ih.1 ih.2 _ hc).resolve_right (hnil _)⟩
    obtain ⟨hlt, hdisc⟩ := hclosed n hn
    apply (hinv.out_fin n).mpr
    refine ⟨hlt, ?_⟩
    cases hf : vis (run g (start bound root)).fin n with
    | true => rfl
    | false => exact absurd (hinv.on_stack n hdisc hf) (hnil n)

/-- T3 in prefix form: if nothing reachable from the root lies on a cycle, whatever is emitted before a
    node contains all of its neighbours -/
theorem run_neighbours_first (g : G) (bound root : Nat) (hr : root < bound)
    (hwf : ∀ n, ∀ m ∈ g.adj n, m < bound) (hac : AcyclicFrom g root) {pre post : List Nat} {v : Nat}
    (h : (run g (start bound root)).out = pre ++ v :: post) : ∀ w ∈ g.adj v, w ∈ pre :=
  ((run_inv g bound root hr hwf).2 hac).ord pre v post h

/-- T3: if nothing reachable from the root lies on a cycle, every node is emitted after all its neighbours -/
theorem run_postorder (g : G) (bound root : Nat) (hr : root < bound)
    (hwf : ∀ n, ∀ m ∈ g.adj n, m < bound) (hac : AcyclicFrom g root) :
    Ordered g (run g (start bound root)).out := by
  intro v hv w hw
  obtain ⟨pre, post, e⟩ := List.append_of_mem hv
  exact ⟨pre, post, e, run_neighbours_first g bound root hr hwf hac e w hw⟩

end Dasp.Graph
