import Dasp.Model.Buffered
import Dasp.Lemmas.SrcQueue
/-!
# Buffered: every operation delivers the next frames of `future` (helper lemmas for C14)

`future s i` is the `i`-th frame the buffered signal still owes in state `s`: the buffered
frames, then the source from its current position (equilibrium past its end).
`Delivers s out s'` says that going from `s` to `s'` handed out exactly the next
`out.length` frames of `future s`, left `future` shifted by that many, pulled the source in
whole buffers only, and lost nothing (delivered + still buffered = was buffered + pulled).
It is reflexive and transitive, every primitive of the model satisfies it, hence every
operation sequence does (`Props/C14.interleaving_transparent`).
Besides `future` and `Delivers`, C14 is stated with `yielded` / `delivered` (the frames an operation, a trace
handed out) and `need` (how many frames `until_exhausted` will still yield, by `roundUp`), defined further down.
-/
namespace Dasp.Buffered
open Dasp.SrcQueue

variable {α : Type}

/-- the `i`-th frame still owed in state `s`: buffered frames first, then the source from its position on -/
def future (s : St α) (i : Nat) : α :=
  if i < s.q.length then s.q.getD i s.src.eq else s.src.at (s.src.pos + (i - s.q.length))

theorem future_eq_getD (s : St α) (i : Nat) :
    future s i = (s.q ++ s.src.frames.drop s.src.pos).getD i s.src.eq := by
  simp only [future, Src.at, List.getD_eq_getElem?_getD]
  by_cases hi : i < s.q.length
  · rw [if_pos hi, List.getElem?_append_left hi]
  · rw [if_neg hi, List.getElem?_append_right (Nat.le_of_not_lt hi), List.getElem?_drop]

structure Delivers (s : St α) (out : List α) (s' : St α) : Prop where
  out_eq : out = (List.range out.length).map (future s)
  fut : ∀ i, future s' i = future s (i + out.length)
  cap_eq : s'.cap = s.cap
  frames_eq : s'.src.frames = s.src.frames
  eq_eq : s'.src.eq = s.src.eq
  mono : s.src.pos ≤ s'.src.pos
  bursts : ∃ k, s'.src.pos = s.src.pos + k * s.cap
  conserve : out.length + s'.q.length = s.q.length + (s'.src.pos - s.src.pos)

theorem Delivers.refl (s : St α) : Delivers s [] s :=
  ⟨rfl, fun _ => rfl, rfl, rfl, rfl, Nat.le_refl _, ⟨0, by simp⟩, by simp⟩

theorem Delivers.trans {s s' s'' : St α} {o1 o2 : List α}
    (h1 : Delivers s o1 s') (h2 : Delivers s' o2 s'') : Delivers s (o1 ++ o2) s'' := by
  -- with the two burst counts named, what was pulled is `k * cap` and `conserve` has no subtraction left
  obtain ⟨k1, hk1⟩ := h1.bursts
  obtain ⟨k2, hk2⟩ := h2.bursts
  have c1 := h1.conserve; have c2 := h2.conserve
  rw [hk1, Nat.add_sub_cancel_left] at c1
  rw [hk2, Nat.add_sub_cancel_left] at c2
  refine ⟨?_, ?_, by rw [h2.cap_eq, h1.cap_eq], by rw [h2.frames_eq, h1.frames_eq],
    by rw [h2.eq_eq, h1.eq_eq], Nat.le_trans h1.mono h2.mono,
    ⟨k1 + k2, by rw [hk2, hk1, h1.cap_eq, Nat.add_mul, Nat.add_assoc]⟩, ?_⟩
  · rw [List.length_append, List.range_add, List.map_append, List.map_map]
    conv => lhs; rw [h1.out_eq, h2.out_eq]
    congr 1
    apply List.map_congr_left
    intro i _
    show future s' i = future s (o1.length + i)
    rw [h1.fut, Nat.add_comm]
  · intro i
    rw [h2.fut, h1.fut, List.length_append, Nat.add_assoc, Nat.add_comm o2.length]
  · rw [hk2, hk1, Nat.add_assoc, Nat.add_sub_cancel_left, List.length_append]; omega

theorem pop_delivers (s : St α) (x : α) (r : List α) (hq : s.q = x :: r) :
    Delivers s [x] { s with q := r } := by
  refine ⟨?_, fun i => ?_, rfl, rfl, rfl, Nat.le_refl _, ⟨0, by simp⟩, ?_⟩
  · show [x] = [future s 0]
    rw [future_eq_getD, hq]; rfl
  · rw [future_eq_getD, future_eq_getD, hq]; rfl
  · rw [hq, Nat.sub_self]; exact Nat.add_comm _ _

theorem pullPush_spec (s : St α) (h : s.q.length ≠ s.cap) :
    pullPush s = { src := { s.src with pos := s.src.pos + 1 }, q := s.q ++ [s.src.at s.src.pos], cap := s.cap } := by
  simp only [pullPush, Src.next, push_of_ne _ h]

theorem fill_spec (n : Nat) : ∀ s : St α, s.q.length + n ≤ s.cap →
    fill n s = { src := { s.src with pos := s.src.pos + n },
                 q := s.q ++ (List.range' s.src.pos n).map s.src.at, cap := s.cap } := by
  induction n with
  | zero => intro s _; cases s; simp [fill]
  | succ n ih =>
    intro s h
    rw [fill, pullPush_spec s (by omega), ih _ (by simp; omega)]
    simp only [List.range'_succ, List.map_cons, List.append_assoc, List.singleton_append]
    congr 2
    omega

theorem refill_spec (s : St α) (hq : s.q = []) :
    refill s = { src := { s.src with pos := s.src.pos + s.cap },
                 q := (List.range' s.src.pos s.cap).map s.src.at, cap := s.cap } := by
  rw [refill, fill_spec s.cap s (by simp [hq]), hq]; simp

theorem refill_delivers (s : St α) (hq : s.q = []) : Delivers s [] (refill s) := by
  rw [refill_spec s hq]
  refine ⟨rfl, fun i => ?_, rfl, rfl, rfl, Nat.le_add_right _ _, ⟨1, by rw [Nat.one_mul]⟩, by simp [hq]⟩
  simp only [future, hq, List.length_map, List.length_range', List.length_nil, Nat.not_lt_zero,
    if_false, Nat.sub_zero, Nat.add_zero]
  split
  · exact run_getD _ _ _ _ _ ‹_›
  · show s.src.at (s.src.pos + s.cap + (i - s.cap)) = s.src.at (s.src.pos + i)
    congr 1; omega

/-- after a refill with `cap ≥ 1` the pop in `Buffered::next`'s loop succeeds -/
theorem refill_nonempty (s : St α) (hq : s.q = []) (hc : 1 ≤ s.cap) : (refill s).q ≠ [] := by
  rw [refill_spec s hq]
  obtain ⟨k, hk⟩ : ∃ k, s.cap = k + 1 := ⟨s.cap - 1, by omega⟩
  simp [hk, List.range'_succ]

theorem beginFrames_eq (s : St α) : beginFrames s = if s.q = [] then refill s else s := by
  unfold beginFrames; simp only [List.length_eq_zero_iff]

theorem beginFrames_delivers (s : St α) : Delivers s [] (beginFrames s) := by
  rw [beginFrames_eq]
  split
  · exact refill_delivers s ‹_›
  · exact Delivers.refl s

theorem beginFrames_pulls (s : St α) :
    (beginFrames s).src.pos = if s.q = [] then s.src.pos + s.cap else s.src.pos := by
  rw [beginFrames_eq]
  split
  · rw [refill_spec s ‹_›]
  · rfl

/-- `Buffered::next` is `next_frames()` followed by one step of the draining iterator: both refill
    exactly when they find the buffer empty (lib.rs:2457-2461, 2490-2496), then pop -/
theorem next_eq (s : St α) :
    next s = match (beginFrames s).q with
      | x :: r => (x, { beginFrames s with q := r })
      | [] => (s.src.eq, beginFrames s) := by
  unfold next beginFrames
  cases hq : s.q with
  | cons x r => simp [hq]
  | nil => simp only [List.length_nil, if_true]; cases (refill s).q <;> rfl

theorem beginFrames_ne_nil (s : St α) (hc : 1 ≤ s.cap) : (beginFrames s).q ≠ [] := by
  rw [beginFrames_eq]
  split
  · exact refill_nonempty s ‹_› hc
  · exact ‹_›

/-- the form in which `next` is used: it pops the head of what `next_frames()` leaves -/
theorem next_spec (s : St α) (hc : 1 ≤ s.cap) :
    (beginFrames s).q = (next s).1 :: (next s).2.q ∧ (next s).2 = { beginFrames s with q := (next s).2.q } := by
  rw [next_eq]
  cases hq : (beginFrames s).q with
  | nil => exact absurd hq (beginFrames_ne_nil s hc)
  | cons x r => exact ⟨rfl, rfl⟩

theorem next_delivers (s : St α) (hc : 1 ≤ s.cap) : Delivers s [(next s).1] (next s).2 := by
  obtain ⟨h1, h2⟩ := next_spec s hc
  rw [h2]
  exact (beginFrames_delivers s).trans (pop_delivers _ _ _ h1)

theorem iterNext_nil {s : St α} (hq : s.q = []) : iterNext s = (none, s) := by
  unfold iterNext; rw [hq]

theorem iterNext_cons {s : St α} {x : α} {r : List α} (hq : s.q = x :: r) :
    iterNext s = (some x, { s with q := r }) := by
  unfold iterNext; rw [hq]

theorem iterN_spec (k : Nat) : ∀ s : St α,
    iterN k s = ((List.range k).map (s.q[·]?), { s with q := s.q.drop k }) := by
  induction k with
  | zero => intro s; rfl
  | succ k ih =>
    intro s
    rw [iterN, List.range_succ_eq_map, List.map_cons, List.map_map]
    cases hq : s.q with
    | nil => rw [iterNext_nil hq, ih s, hq, List.drop_nil, List.drop_nil]; rfl
    | cons x r => rw [iterNext_cons hq, ih]; rfl

theorem iterN_delivers (k : Nat) : ∀ s : St α,
    Delivers s ((iterN k s).1.filterMap id) (iterN k s).2 := by
  induction k with
  | zero => intro s; exact Delivers.refl s
  | succ k ih =>
    intro s
    cases hq : s.q with
    | nil => simpa [iterN, iterNext_nil hq] using ih s
    | cons x r => simpa [iterN, iterNext_cons hq] using (pop_delivers s x r hq).trans (ih _)

theorem untilExhausted_delivers (fuel : Nat) : ∀ s : St α, 1 ≤ s.cap →
    Delivers s (untilExhausted fuel s).1 (untilExhausted fuel s).2 := by
  induction fuel with
  | zero => intro s _; exact Delivers.refl s
  | succ fuel ih =>
    intro s hc
    unfold untilExhausted
    by_cases he : isExhausted s = true
    · rw [if_pos he]; exact Delivers.refl s
    · rw [if_neg he]
      have h1 := next_delivers s hc
      have h2 := ih (next s).2 (by rw [h1.cap_eq]; exact hc)
      exact h1.trans h2

/-- the frames among what one operation returned (a batch iterator pads with `None`) -/
def yielded (out : List (Option α)) : List α := out.filterMap id

theorem exec_delivers (s : St α) (hc : 1 ≤ s.cap) (o : Op) :
    Delivers s (yielded (exec s o).1) (exec s o).2 := by
  cases o with
  | next => simpa [exec, yielded] using next_delivers s hc
  | frames k =>
    have h1 := beginFrames_delivers s
    have h2 := iterN_delivers k (beginFrames s)
    simpa [exec, yielded] using h1.trans h2
  | drain =>
    have h1 := beginFrames_delivers s
    have h2 := iterN_delivers (beginFrames s).q.length (beginFrames s)
    simpa [exec, yielded] using h1.trans h2
  | untilExhausted =>
    have h := untilExhausted_delivers (ueFuel s) s hc
    have : yielded ((untilExhausted (ueFuel s) s).1.map some) = (untilExhausted (ueFuel s) s).1 := by
      simp [yielded, List.filterMap_map]
    simpa [exec, this] using h
  | look => exact Delivers.refl s

/-- every frame handed out over a trace, in order -/
def delivered (t : List (Obs α)) : List α := t.flatMap fun o => yielded o.out

theorem isExhausted_iff (s : St α) :
    isExhausted s = true ↔ s.q = [] ∧ s.src.frames.length ≤ s.src.pos := by
  simp [isExhausted, Src.isExhausted, List.length_eq_zero_iff]

/-- smallest multiple of `c` that is `≥ r`, as `r` plus the padding that completes the last buffer -/
def roundUp (r c : Nat) : Nat := r + (c - r % c) % c

/-- frames `until_exhausted` will still yield: what is buffered plus the remaining source
    rounded up to whole buffers -/
def need (s : St α) : Nat := s.q.length + roundUp (s.src.frames.length - s.src.pos) s.cap

theorem roundUp_lt (r : Nat) {c : Nat} (hc : 1 ≤ c) : roundUp r c < r + c :=
  Nat.add_lt_add_left (Nat.mod_lt _ hc) r

theorem need_zero_iff (s : St α) : need s = 0 ↔ isExhausted s = true := by
  rw [isExhausted_iff]
  unfold need roundUp
  constructor
  · intro h
    exact ⟨List.eq_nil_of_length_eq_zero (by omega), by omega⟩
  · rintro ⟨hq, hn⟩
    rw [hq, show s.src.frames.length - s.src.pos = 0 by omega, Nat.zero_mod, Nat.sub_zero, Nat.mod_self]; rfl

theorem roundUp_step (r c : Nat) (hr : r ≠ 0) : roundUp r c = c + roundUp (r - c) c := by
  unfold roundUp
  rcases Nat.lt_or_ge r c with h | h
  · rw [Nat.sub_eq_zero_of_le (Nat.le_of_lt h), Nat.zero_mod, Nat.sub_zero, Nat.mod_self, Nat.mod_eq_of_lt h,
      Nat.mod_eq_of_lt (by omega)]; omega
  · rw [Nat.mod_eq_sub_mod h]; omega

/-- refilling an empty buffer before exhaustion moves one buffer's worth from "remaining source, rounded
    up" to "buffered" -/
theorem need_beginFrames (s : St α) (hne : ¬ isExhausted s = true) :
    need (beginFrames s) = need s := by
  rw [beginFrames_eq]
  split
  · rename_i hq
    have hrem : s.src.frames.length - s.src.pos ≠ 0 := by
      intro h'; apply hne; rw [isExhausted_iff]; exact ⟨hq, by omega⟩
    rw [refill_spec s hq]
    simp only [need, List.length_map, List.length_range', hq, List.length_nil, Nat.zero_add,
      roundUp_step _ _ hrem]
    congr 2; omega
  · rfl

theorem need_next (s : St α) (hc : 1 ≤ s.cap) (hne : ¬ isExhausted s = true) :
    need (next s).2 + 1 = need s := by
  obtain ⟨h1, h2⟩ := next_spec s hc
  rw [← need_beginFrames s hne, h2]
  simp only [need, h1, List.length_cons]; omega

theorem untilExhausted_count (fuel : Nat) : ∀ s : St α, 1 ≤ s.cap → need s ≤ fuel →
    (untilExhausted fuel s).1.length = need s ∧ isExhausted (untilExhausted fuel s).2 = true := by
  induction fuel with
  | zero =>
    intro s hc h
    have h0 : need s = 0 := by omega
    exact ⟨by simp [untilExhausted, h0], (need_zero_iff s).1 h0⟩
  | succ fuel ih =>
    intro s hc h
    unfold untilExhausted
    by_cases he : isExhausted s = true
    · rw [if_pos he]; exact ⟨by simp [(need_zero_iff s).2 he], he⟩
    · rw [if_neg he]
      have hn := need_next s hc he
      have hcap : (next s).2.cap = s.cap := (next_delivers s hc).cap_eq
      obtain ⟨h1, h2⟩ := ih (next s).2 (by rw [hcap]; exact hc) (by omega)
      exact ⟨by simp [h1]; omega, h2⟩

theorem ueFuel_enough (s : St α) (hc : 1 ≤ s.cap) : need s ≤ ueFuel s := by
  have := roundUp_lt (s.src.frames.length - s.src.pos) hc
  unfold need ueFuel; omega

theorem map_getD_range (l : List α) (d : α) (pad : Nat) :
    (List.range (l.length + pad)).map (fun i => l.getD i d) = l ++ List.replicate pad d := by
  apply List.ext_getElem
  · simp
  · intro i h1 h2
    simp only [List.getElem_map, List.getElem_range]
    by_cases hi : i < l.length
    · rw [List.getElem_append_left hi]; simp [List.getD_eq_getElem?_getD, hi]
    · rw [List.getElem_append_right (by omega)]
      simp [List.getD_eq_getElem?_getD, List.getElem?_eq_none (Nat.le_of_not_lt hi)]

end Dasp.Buffered
