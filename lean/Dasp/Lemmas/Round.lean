import Dasp.Lemmas.Rne
import Mathlib.Algebra.Order.Field.Power
import Mathlib.Tactic.NormNum
/-!
# One rounding of a non-negative rational onto the grid of a binary format

`rv F q` is the magnitude `Machine/FP.roundPos` returns for `q ≥ 0` when it does not overflow: `q` rounded to
nearest-even on the grid `2^(gridExp F q)`; `onGrid F q` says that `q` is representable.  First what the model's `pow2` and
`ilog2` are: `pow2_eq` (`2^e` in ℚ), `ilog2_spec` (the binade of `q > 0`).
-/

namespace Dasp

theorem pow2_eq (e : Int) : pow2 e = (2 : ℚ) ^ e := by
  unfold pow2
  split_ifs with h
  · obtain ⟨n, rfl⟩ := Int.eq_ofNat_of_zero_le h
    simp
  · have h' : e < 0 := by omega
    obtain ⟨n, hn⟩ := Int.exists_eq_neg_ofNat (le_of_lt h')
    subst hn
    simp [zpow_neg]

theorem pow2_pos (e : Int) : 0 < pow2 e := by rw [pow2_eq]; positivity

theorem pow2_add (a b : Int) : pow2 (a + b) = pow2 a * pow2 b := by
  simp only [pow2_eq]; exact zpow_add₀ (by norm_num) a b

theorem pow2_mono {a b : Int} (h : a ≤ b) : pow2 a ≤ pow2 b := by
  simp only [pow2_eq]; exact zpow_le_zpow_right₀ (by norm_num) h

theorem pow2_lt {a b : Int} (h : a < b) : pow2 a < pow2 b := by
  simp only [pow2_eq]; exact zpow_lt_zpow_right₀ (by norm_num) h

theorem pow2_succ (a : Int) : pow2 (a + 1) = 2 * pow2 a := by
  rw [pow2_add]; simp [pow2_eq]; ring

theorem pow2_half (e : Int) : pow2 e / 2 = pow2 (e - 1) := by
  rw [← sub_add_cancel e 1, pow2_succ, sub_add_cancel, mul_div_cancel_left₀ _ two_ne_zero]

theorem pow2_nat (k : ℕ) : pow2 (k : ℤ) = (2 : ℚ) ^ k := by rw [pow2_eq, zpow_natCast]

theorem pow2_zero : pow2 0 = 1 := by simp [pow2_eq]

theorem div_pow2 (x : ℚ) (k : ℤ) : x / pow2 k = x * pow2 (-k) := by
  rw [div_eq_mul_inv, pow2_eq, pow2_eq, zpow_neg]

theorem natCast_le_pow2 {n k : ℕ} (h : n ≤ 2 ^ k) : (n : ℚ) ≤ pow2 k := by rw [pow2_nat]; exact_mod_cast h

theorem abs_cast_le_pow2 {a : ℤ} {k : ℕ} (hb : |a| ≤ 2 ^ k) : |(a : ℚ)| ≤ pow2 k := by
  rw [pow2_nat]; exact_mod_cast hb

theorem pow2_int_of_nonneg {n : Int} (h : 0 ≤ n) : ∃ m : Int, pow2 n = (m : ℚ) := by
  obtain ⟨k, rfl⟩ := Int.eq_ofNat_of_zero_le h
  exact ⟨(2 ^ k : Nat), by rw [pow2_nat]; push_cast; rfl⟩

theorem nat_log2_bracket (n : Nat) (hn : n ≠ 0) : pow2 (Nat.log2 n : Int) ≤ (n : ℚ) ∧ (n : ℚ) < pow2 ((Nat.log2 n : Int) + 1) := by
  constructor
  · rw [pow2_nat]; exact_mod_cast Nat.log2_self_le hn
  · have : ((Nat.log2 n : Int) + 1) = ((Nat.log2 n + 1 : Nat) : Int) := by push_cast; rfl
    rw [this, pow2_nat]; exact_mod_cast Nat.lt_log2_self

/-- numerator in binade `a`, denominator in binade `b`: the quotient is in binade `a − b − 1` or `a − b` -/
theorem div_bracket {n d : ℚ} {a b : ℤ} (hn : pow2 a ≤ n ∧ n < pow2 (a + 1)) (hd : pow2 b ≤ d ∧ d < pow2 (b + 1)) :
    pow2 (a - b - 1) < n / d ∧ n / d < pow2 (a - b + 1) := by
  have e1 : pow2 (a - b - 1) = pow2 a / pow2 (b + 1) := by rw [div_pow2, ← pow2_add]; congr 1; ring
  have e2 : pow2 (a - b + 1) = pow2 (a + 1) / pow2 b := by rw [div_pow2, ← pow2_add]; congr 1; ring
  rw [e1, e2]
  exact ⟨div_lt_div₀' hn.1 hd.2 ((pow2_pos a).trans_le hn.1) ((pow2_pos b).trans_le hd.1),
    div_lt_div₀ hn.2 hd.1 (pow2_pos _).le (pow2_pos b)⟩

theorem ilog2_spec (q : Rat) (hq : 0 < q) : pow2 (ilog2 q) ≤ q ∧ q < pow2 (ilog2 q + 1) := by
  have hnum := Rat.num_pos.mpr hq
  have hn : ((q.num.toNat : ℕ) : ℚ) = q.num := by exact_mod_cast Int.toNat_of_nonneg hnum.le
  obtain ⟨lo, hi⟩ := div_bracket (nat_log2_bracket q.num.toNat (by omega)) (nat_log2_bracket q.den q.den_nz)
  rw [hn, Rat.num_div_den] at lo hi
  unfold ilog2
  simp only
  split_ifs with h1 h2
  · exact absurd h2 (not_le.mpr hi)
  · exact ⟨h1, not_le.mp h2⟩
  · exact ⟨lo.le, by rw [sub_add_cancel]; exact not_le.mp h1⟩

theorem le_ilog2_iff {q : ℚ} (hq : 0 < q) {k : ℤ} : k ≤ ilog2 q ↔ pow2 k ≤ q := by
  obtain ⟨a, b⟩ := ilog2_spec q hq
  refine ⟨fun h => le_trans (pow2_mono h) a, fun h => ?_⟩
  by_contra hc
  exact absurd (lt_of_lt_of_le b (pow2_mono (by omega))) (not_lt.mpr h)

theorem ilog2_lt_iff {q : ℚ} (hq : 0 < q) {k : ℤ} : ilog2 q < k ↔ q < pow2 k := by
  rw [← not_le, le_ilog2_iff hq, not_le]

theorem ilog2_le_of_le_pow2 {q : ℚ} (hq : 0 < q) {k : ℤ} (h : q ≤ pow2 k) : ilog2 q ≤ k :=
  Int.lt_add_one_iff.mp ((ilog2_lt_iff hq).mpr (lt_of_le_of_lt h (pow2_lt (lt_add_one k))))

theorem ilog2_mono {x y : ℚ} (hx : 0 < x) (h : x ≤ y) : ilog2 x ≤ ilog2 y :=
  (le_ilog2_iff (lt_of_lt_of_le hx h)).mpr (le_trans (ilog2_spec x hx).1 h)

theorem ilog2_mul_pow2 {x : ℚ} (hx : 0 < x) (k : ℤ) : ilog2 (x * pow2 k) = ilog2 x + k := by
  have hxk : 0 < x * pow2 k := mul_pos hx (pow2_pos k)
  obtain ⟨a, b⟩ := ilog2_spec x hx
  refine le_antisymm (Int.lt_add_one_iff.mp ((ilog2_lt_iff hxk).mpr ?_)) ((le_ilog2_iff hxk).mpr ?_)
  · rw [add_right_comm, pow2_add]; exact mul_lt_mul_of_pos_right b (pow2_pos k)
  · rw [pow2_add]; exact mul_le_mul_of_nonneg_right a (pow2_pos k).le

/-- the exponent of the grid `q` is rounded on: `prec − 1` places below its leading bit, not below `emin`.  Linear facts about
    it are left to `omega` on the unfolded `max`. -/
def gridExp (F : Fmt2) (q : Rat) : Int := max F.emin (ilog2 q - (F.prec : Int) + 1)

/-- rounded value, ignoring overflow -/
def rv (F : Fmt2) (q : Rat) : Rat := (rne (q / pow2 (gridExp F q)) : Rat) * pow2 (gridExp F q)

theorem roundPos_eq (F : Fmt2) (q : Rat) (hq : q ≠ 0) :
    roundPos F q = if rv F q < pow2 (F.emax + 1) then some (rv F q) else none := by
  rw [roundPos, if_neg hq]
  split_ifs with h
  · exact if_neg (not_le.mpr h)
  · exact if_pos (not_lt.mp h)

theorem gridExp_le (F : Fmt2) {q : ℚ} (hq : 0 < q) {k : ℤ} (hk : F.emin ≤ k) (hp : 1 ≤ F.prec) (h : q ≤ pow2 k) :
    gridExp F q ≤ k := by
  have := ilog2_le_of_le_pow2 hq h
  unfold gridExp; omega

theorem gridExp_mono (F : Fmt2) {x y : Rat} (hx : 0 < x) (h : x ≤ y) : gridExp F x ≤ gridExp F y := by
  have := ilog2_mono hx h
  unfold gridExp; omega

theorem gridExp_finer (F G : Fmt2) (hprec : F.prec ≤ G.prec) (hemin : G.emin ≤ F.emin) (q : ℚ) :
    gridExp G q ≤ gridExp F q := by unfold gridExp; omega

theorem rv_nonneg (F : Fmt2) {q : ℚ} (h : 0 ≤ q) : 0 ≤ rv F q := by
  have h1 : 0 ≤ q / pow2 (gridExp F q) := div_nonneg h (le_of_lt (pow2_pos _))
  have h2 : (0:ℚ) ≤ rne (q / pow2 (gridExp F q)) := by exact_mod_cast rne_nonneg h1
  exact mul_nonneg h2 (le_of_lt (pow2_pos _))

theorem rv_zero (F : Fmt2) : rv F 0 = 0 := by
  rw [rv, zero_div, rne_small le_rfl (by norm_num), Int.cast_zero, zero_mul]

theorem rne_grid_mono (e : ℤ) {x y : ℚ} (h : x ≤ y) :
    (rne (x / pow2 e) : ℚ) * pow2 e ≤ rne (y / pow2 e) * pow2 e :=
  mul_le_mul_of_nonneg_right (by exact_mod_cast rne_mono (div_le_div_of_nonneg_right h (pow2_pos e).le)) (pow2_pos e).le

theorem rne_grid_id (e m : ℤ) : (rne ((m : ℚ) * pow2 e / pow2 e) : ℚ) * pow2 e = m * pow2 e := by
  rw [mul_div_cancel_right₀ _ (pow2_pos e).ne', rne_int]

theorem pow2_on_grid {e k : ℤ} (h : e ≤ k) : ∃ m : ℤ, pow2 k = m * pow2 e := by
  obtain ⟨m, hm⟩ := pow2_int_of_nonneg (sub_nonneg.mpr h)
  exact ⟨m, by rw [← hm, ← pow2_add, sub_add_cancel]⟩

theorem rne_grid_pow2 {e k : ℤ} (h : e ≤ k) : (rne (pow2 k / pow2 e) : ℚ) * pow2 e = pow2 k := by
  obtain ⟨m, hm⟩ := pow2_on_grid h
  rw [hm, rne_grid_id]

theorem rv_le_pow2 (F : Fmt2) {x : Rat} {k : Int} (hk : gridExp F x ≤ k) (hx : x ≤ pow2 k) : rv F x ≤ pow2 k :=
  (rne_grid_mono _ hx).trans_eq (rne_grid_pow2 hk)

theorem pow2_le_rv (F : Fmt2) {y : Rat} {k : Int} (hk : gridExp F y ≤ k) (hy : pow2 k ≤ y) : pow2 k ≤ rv F y :=
  (rne_grid_pow2 hk).ge.trans (rne_grid_mono _ hy)

theorem rv_le_pow2_of_emin_le (F : Fmt2) (hp : 1 ≤ F.prec) {q : ℚ} (hq : 0 ≤ q) {k : ℤ} (hk : F.emin ≤ k) (h : q ≤ pow2 k) :
    rv F q ≤ pow2 k := by
  rcases eq_or_lt_of_le hq with rfl | hq
  · rw [rv_zero]; exact (pow2_pos k).le
  · exact rv_le_pow2 F (gridExp_le F hq hk hp h) h

theorem rv_le_one (F : Fmt2) (hp : 1 ≤ F.prec) (hemin : F.emin ≤ 0) {q : ℚ} (h0 : 0 ≤ q) (h1 : q ≤ 1) : rv F q ≤ 1 := by
  rw [← pow2_zero] at h1 ⊢; exact rv_le_pow2_of_emin_le F hp h0 hemin h1

theorem rv_mono (F : Fmt2) (hp : 1 ≤ F.prec) {x y : Rat} (hx : 0 ≤ x) (h : x ≤ y) : rv F x ≤ rv F y := by
  rcases hx.eq_or_lt with rfl | hx
  · rw [rv_zero]; exact rv_nonneg F h
  rcases Int.lt_or_eq_of_le (gridExp_mono F hx h) with hlt | heq
  · -- different grids: separate by the power of two at the bottom of y's binade
    have bx := ilog2_spec x hx; have by' := ilog2_spec y (lt_of_lt_of_le hx h)
    have hlog : ilog2 x < ilog2 y ∧ gridExp F y ≤ ilog2 y := by unfold gridExp at hlt ⊢; omega
    have hxz : x ≤ pow2 (ilog2 y) := le_trans (le_of_lt bx.2) (pow2_mono (by omega))
    exact le_trans (rv_le_pow2 F (by omega) hxz) (pow2_le_rv F hlog.2 by'.1)
  · unfold rv; rw [heq]; exact rne_grid_mono _ h

/-- representable: on its own grid -/
def onGrid (F : Fmt2) (q : Rat) : Prop := ∃ m : Int, q = (m : ℚ) * pow2 (gridExp F q)

theorem onGrid_zero (F : Fmt2) : onGrid F 0 := ⟨0, by simp⟩

theorem onGrid_of_le (F : Fmt2) {q : ℚ} {m e : ℤ} (he : gridExp F q ≤ e) (hq : q = m * pow2 e) : onGrid F q := by
  obtain ⟨c, hc⟩ := pow2_on_grid he
  exact ⟨m * c, by rw [Int.cast_mul, mul_assoc, ← hc]; exact hq⟩

theorem onGrid_finer (F G : Fmt2) (hprec : F.prec ≤ G.prec) (hemin : G.emin ≤ F.emin) {q : ℚ} (h : onGrid F q) :
    onGrid G q := by
  obtain ⟨m, hm⟩ := h
  exact onGrid_of_le G (gridExp_finer F G hprec hemin q) hm

theorem rv_id (F : Fmt2) {q : Rat} (h : onGrid F q) : rv F q = q := by
  obtain ⟨m, hm⟩ := h
  have := rne_grid_id (gridExp F q) m
  rw [← hm] at this; exact this

theorem rv_onGrid_nonneg (F : Fmt2) (hp : 1 ≤ F.prec) {q : ℚ} (hq : 0 ≤ q) : onGrid F (rv F q) := by
  by_cases hy0 : rv F q = 0
  · rw [hy0]; exact onGrid_zero F
  have hq : 0 < q := hq.lt_of_ne fun h => hy0 (h ▸ rv_zero F)
  have hy : 0 < rv F q := (rv_nonneg F hq.le).lt_of_ne' hy0
  -- `q` is below the power of two `prec` places above its grid, so its rounding is at most that
  have hle : rv F q ≤ pow2 (gridExp F q + F.prec) :=
    rv_le_pow2 F (by omega) ((ilog2_spec q hq).2.le.trans (pow2_mono (by unfold gridExp; omega)))
  rcases hle.lt_or_eq with h | h
  · -- below it the result has a grid no coarser than `q`'s
    have := (ilog2_lt_iff hy).mpr h
    exact onGrid_of_le F (e := gridExp F q) (by unfold gridExp at this ⊢; omega) rfl
  · have := ilog2_le_of_le_pow2 hy h.le
    exact onGrid_of_le F (m := 1) (e := gridExp F q + F.prec) (by unfold gridExp at this ⊢; omega) (by rw [h]; simp)

theorem rv_onGrid (F : Fmt2) (hp : 1 ≤ F.prec) {q : ℚ} (hq : 0 < q) : onGrid F (rv F q) :=
  rv_onGrid_nonneg F hp hq.le

theorem rv_idem (F : Fmt2) (hp : 1 ≤ F.prec) {q : ℚ} (hq : 0 < q) : rv F (rv F q) = rv F q :=
  rv_id F (rv_onGrid F hp hq)

/-- scaling a representable value up by a power of two keeps it representable (subnormals included),
    so `s * 2^k.0` in the float→int conversions is exact -/
theorem onGrid_scale_up (F : Fmt2) {x : ℚ} (hx : 0 ≤ x) (h : onGrid F x) (k : Int) (hk : 0 ≤ k) :
    onGrid F (x * pow2 k) := by
  rcases hx.eq_or_lt with rfl | hx
  · rwa [zero_mul]
  obtain ⟨m, hm⟩ := h
  refine onGrid_of_le F (m := m) (e := gridExp F x + k) ?_ (by rw [pow2_add, ← mul_assoc, ← hm])
  unfold gridExp; rw [ilog2_mul_pow2 hx]; omega

theorem mul_pow2_exact (F : Fmt2) {x : ℚ} (hx : 0 < x) (h : onGrid F x) (k : Int) (hk : 0 ≤ k) :
    rv F (x * pow2 k) = x * pow2 k := rv_id F (onGrid_scale_up F hx.le h k hk)

theorem onGrid_int_scaled (F : Fmt2) (hp : 1 ≤ F.prec) {m : ℤ} (hm : 0 < m) (hmb : m ≤ 2 ^ (F.prec - 1)) (k : ℕ) (hk : F.emin ≤ -(k : ℤ)) :
    onGrid F ((m : ℚ) / pow2 k) := by
  have hmq : (0 : ℚ) < m := by exact_mod_cast hm
  refine onGrid_of_le F ?_ (div_pow2 _ _)
  have h1 : (m : ℚ) ≤ pow2 ((F.prec : ℤ) - 1) := by
    rw [show (F.prec : ℤ) - 1 = ((F.prec - 1 : ℕ) : ℤ) by omega, pow2_nat]; exact_mod_cast hmb
  have hl : ilog2 ((m : ℚ) / pow2 k) ≤ (F.prec : ℤ) - 1 - k := by
    rw [div_pow2, ilog2_mul_pow2 hmq]
    have := ilog2_le_of_le_pow2 hmq h1
    omega
  unfold gridExp; omega

theorem onGrid_nat (F : Fmt2) (hp : 1 ≤ F.prec) (hemin : F.emin ≤ 0) {n : ℕ} (hb : n ≤ 2 ^ (F.prec - 1)) :
    onGrid F (n : ℚ) := by
  rcases n.eq_zero_or_pos with rfl | hn
  · rw [Nat.cast_zero]; exact onGrid_zero F
  · have := onGrid_int_scaled F hp (m := (n : ℤ)) (by exact_mod_cast hn) (by exact_mod_cast hb) 0 (by simpa using hemin)
    simpa [pow2_zero] using this

theorem onGrid_abs_scaled (F : Fmt2) (hp : 1 ≤ F.prec) {a : ℤ} {k : ℕ} (hb : |a| ≤ 2 ^ k)
    (hfit : k + 1 ≤ F.prec) (hk : F.emin ≤ -(k : ℤ)) : onGrid F (|(a : ℚ)| / pow2 k) := by
  by_cases h0 : a = 0
  · rw [h0, Int.cast_zero, abs_zero, zero_div]; exact onGrid_zero F
  · have := onGrid_int_scaled F hp (abs_pos.mpr h0) (le_trans hb (by
      exact_mod_cast Nat.pow_le_pow_right (by norm_num) (show k ≤ F.prec - 1 by omega))) k hk
    rwa [Int.cast_abs] at this

/-- scaling by a power of two commutes with rounding when neither grid is clamped at `emin` (`h1`, `h2`) -/
theorem rv_scale (F : Fmt2) {x : Rat} (hx : 0 < x) (k : Int)
    (h1 : F.emin ≤ ilog2 x - (F.prec : Int) + 1) (h2 : F.emin ≤ ilog2 x + k - (F.prec : Int) + 1) :
    rv F (x * pow2 k) = rv F x * pow2 k := by
  have he : gridExp F (x * pow2 k) = gridExp F x + k := by unfold gridExp; rw [ilog2_mul_pow2 hx]; omega
  unfold rv; rw [he, pow2_add, mul_div_mul_right _ _ (pow2_pos k).ne', mul_assoc]

/-- model of `(a as fN) / 2^k` for a positive integer a: two roundings -/
def i2fPos (F : Fmt2) (a : ℚ) (k : Int) : ℚ := rv F (rv F a / pow2 k)

/-- ... equals the correctly rounded quotient when nothing is near the subnormal range -/
theorem i2fPos_correct (F : Fmt2) (hp : 1 ≤ F.prec) {a : ℚ} (ha : 1 ≤ a) (k : Int) (hk : 0 ≤ k)
    (hnorm : F.emin + k + (F.prec : Int) ≤ 0) :
    i2fPos F a k = rv F (a / pow2 k) := by
  have ha0 : 0 < a := by linarith
  have hla : 0 ≤ ilog2 a := (le_ilog2_iff ha0).mpr (by rwa [pow2_zero])
  have h1 := pow2_le_rv F (k := ilog2 a) (by unfold gridExp; omega) (ilog2_spec a ha0).1
  have hy0 : 0 < rv F a := lt_of_lt_of_le (pow2_pos _) h1
  have hly : ilog2 a ≤ ilog2 (rv F a) := (le_ilog2_iff hy0).mpr h1
  -- dividing by `2^k` moves neither rounding off its unclamped grid
  rw [i2fPos, div_pow2, div_pow2, rv_scale F hy0 (-k) (by omega) (by omega), rv_idem F hp ha0,
    rv_scale F ha0 (-k) (by omega) (by omega)]

theorem rne_grid_err (e : ℤ) (q : ℚ) : |(rne (q / pow2 e) : ℚ) * pow2 e - q| ≤ pow2 e / 2 := by
  have he := pow2_pos e
  obtain ⟨⟨h1, h2⟩, _⟩ := rne_spec (q / pow2 e)
  have h3 : |(rne (q / pow2 e) : ℚ) - q / pow2 e| ≤ 1 / 2 :=
    abs_sub_le_iff.mpr ⟨sub_le_iff_le_add'.mpr h2, sub_le_comm.mp h1⟩
  have e' : (rne (q / pow2 e) : ℚ) * pow2 e - q = (rne (q / pow2 e) - q / pow2 e) * pow2 e := by
    rw [sub_mul, div_mul_cancel₀ _ he.ne']
  rw [e', abs_mul, abs_of_pos he]
  exact (mul_le_mul_of_nonneg_right h3 he.le).trans_eq (by ring)

/-- half a unit in the last place of the grid `q` is rounded on -/
theorem rv_abs_err (F : Fmt2) (q : Rat) : |rv F q - q| ≤ pow2 (gridExp F q) / 2 := rne_grid_err _ q

/-- relative error `2^−prec` in the normal range, absolute error `2^(emin−1)` in the subnormal range -/
theorem rv_rel_err (F : Fmt2) {q : Rat} (hq : 0 < q) :
    |rv F q - q| ≤ pow2 (-(F.prec : Int)) * q + pow2 (F.emin - 1) := by
  refine (rv_abs_err F q).trans ?_
  rw [pow2_half, gridExp]
  rcases le_total F.emin (ilog2 q - (F.prec : Int) + 1) with h | h
  · -- normal range: half a grid step is `2^(−prec) · 2^(ilog2 q)`
    rw [max_eq_right h, add_sub_cancel_right, sub_eq_neg_add, pow2_add]
    exact (mul_le_mul_of_nonneg_left (ilog2_spec q hq).1 (pow2_pos _).le).trans (le_add_of_nonneg_right (pow2_pos _).le)
  · rw [max_eq_left h]; exact le_add_of_nonneg_left (mul_pos (pow2_pos _) hq).le

/-- below 1 the rounding error is at most `2^-prec` (half a unit of the binade `[1/2, 1)`) -/
theorem rv_err_le_one (F : Fmt2) (hemin : F.emin ≤ 1 - (F.prec : ℤ)) {q : ℚ} (h0 : 0 ≤ q) (h1 : q ≤ 1) :
    |rv F q - q| ≤ pow2 (-(F.prec : ℤ)) := by
  rcases eq_or_lt_of_le h0 with rfl | h0
  · rw [rv_zero, sub_zero, abs_zero]; exact (pow2_pos _).le
  · have hl := ilog2_le_of_le_pow2 h0 (k := 0) (by rwa [pow2_zero])
    refine (rv_abs_err F q).trans ((pow2_half _).trans_le (pow2_mono ?_))
    unfold gridExp; omega

#print axioms rv_mono
#print axioms rv_scale
#print axioms i2fPos_correct
#print axioms mul_pow2_exact
end Dasp
