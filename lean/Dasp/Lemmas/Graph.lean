import Dasp.Lemmas.Dfs
/-!
# The layer `dasp_graph::process` adds on top of the DFS: reset, inputs, invocation order, buffers

Core Lean only.  Holds the hypotheses `PG.WF`, `Proc.Ok` and the path relation `PathTo` in which `Props/C09.lean`
states its theorems; at the end two list facts for it (the log of an unwound call is a prefix; example graphs
given by a table).
-/
namespace Dasp.Graph

/-- adjacency stays below the node bound (true of every petgraph container: edges join existing nodes) -/
def PG.WF (g : PG) : Prop := ∀ n, ∀ m ∈ g.inc n, m < g.bound

/-- the two visit maps of a `DfsPostOrder` always have the same length (both come from `visit_map`/`reset_map`) -/
def Proc.Ok (p : Proc) : Prop := p.disc.length = p.fin.length

theorem Proc.Ok.length_eq {p : Proc} (h : p.Ok) : p.disc.length = p.fin.length := h

theorem Proc.empty_ok : Proc.empty.Ok := rfl

/-- `n` has a directed path (possibly empty) to `root`; edge `a → b` iff `a ∈ g.inc b` -/
inductive PathTo (g : PG) (root : Nat) : Nat → Prop
  | refl : PathTo g root root
  | cons {a b : Nat} : a ∈ g.inc b → PathTo g root b → PathTo g root a

theorem pathTo_iff_reach (g : PG) (root n : Nat) : PathTo g root n ↔ Reach ⟨g.inc⟩ root n := by
  constructor
  · intro h
    induction h with
    | refl => exact .refl _ root
    | cons hab _ ih => exact ih.step hab
  · rintro (rfl | h)
    · exact .refl
    · induction h with
      | edge hb => exact .cons hb .refl
      | trans _ hc ih => exact .cons hc ih

theorem PathTo.eq_or_inc {g : PG} {root n : Nat} (h : PathTo g root n) : n = root ∨ ∃ b, n ∈ g.inc b := by
  cases h with
  | refl => exact Or.inl rfl
  | cons hab _ => exact Or.inr ⟨_, hab⟩

theorem PathTo.le {g : PG} (hlt : ∀ n, ∀ m ∈ g.inc n, n < m) {a b : Nat} (h : PathTo g a b) : a ≤ b := by
  induction h with
  | refl => exact Nat.le_refl _
  | cons hab _ ih => exact Nat.le_of_lt (Nat.lt_of_le_of_lt ih (hlt _ _ hab))

/-- both visit maps cut down to `b` entries; `step` commutes with this, so the order ignores how far the maps have grown -/
def St.trunc (b : Nat) (s : St) : St := { s with disc := s.disc.take b, fin := s.fin.take b }

theorem vis_take {m : VMap} {b i : Nat} (h : i < b) : vis (m.take b) i = vis m i := by
  simp [vis, List.getD, h]

theorem mark_take (m : VMap) (b i : Nat) : mark (m.take b) i = (mark m i).take b := by
  simp [mark, List.take_set]

theorem pushList_take {adj : List Nat} {m : VMap} {b : Nat} (h : ∀ w ∈ adj, w < b) :
    pushList adj (m.take b) = pushList adj m :=
  List.filter_congr fun w hw => by rw [vis_take (h w hw)]

/-- `step` never looks at a visit map at or beyond the node bound -/
theorem step_trunc {g : G} {b : Nat} (hwf : ∀ n, ∀ m ∈ g.adj n, m < b) {s : St}
    (hs : ∀ x ∈ s.stack, x < b) : step g (s.trunc b) = (step g s).map (St.trunc b) := by
  cases e : s.stack with
  | nil => simp [step, St.trunc, e]
  | cons nx rest =>
    have hnx : nx < b := hs nx (by simp [e])
    simp only [step, St.trunc, e, vis_take hnx, mark_take, pushList_take (hwf nx)]
    split
    · split <;> rfl
    · rfl

theorem run_trunc {g : G} {b : Nat} (hwf : ∀ n, ∀ m ∈ g.adj n, m < b) (s : St)
    (hs : ∀ x ∈ s.stack, x < b) : run g (s.trunc b) = (run g s).trunc b := by
  fun_induction run g s with
  | case1 s h => rw [run_eq, step_trunc hwf hs, h]; rfl
  | case2 s s' h ih => rw [run_eq, step_trunc hwf hs, h]; exact ih (step_stack_lt hwf hs h)

theorem run_start_out {g : G} {b L : Nat} (hwf : ∀ n, ∀ m ∈ g.adj n, m < b) {root : Nat}
    (hr : root < b) (hL : b ≤ L) : (run g (start L root)).out = (run g (start b root)).out := by
  have e : (start L root).trunc b = start b root := by
    simp [St.trunc, start, List.take_replicate, Nat.min_eq_left hL]
  rw [← e, run_trunc hwf _ (by simp [start]; exact hr)]; rfl

theorem resetMoveTo_eq (g : PG) (p : Proc) (hp : p.Ok) (root : Nat) :
    resetMoveTo g p root = start (max p.disc.length g.bound) root := by
  unfold resetMoveTo start resetMap
  rw [hp.length_eq]

theorem order_eq_canonical (g : PG) (hwf : g.WF) (p : Proc) (hp : p.Ok) (root : Nat) (hr : root < g.bound) :
    order g p root = (run ⟨g.inc⟩ (start g.bound root)).out := by
  unfold order
  rw [resetMoveTo_eq g p hp root]
  exact run_start_out (g := ⟨g.inc⟩) hwf hr (Nat.le_max_right _ _)

/-- what one `process` call invokes: exactly the nodes with a path to the root, each once -/
theorem order_spec (g : PG) (hwf : g.WF) (p : Proc) (hp : p.Ok) (root : Nat) (hr : root < g.bound) :
    (∀ n, n ∈ order g p root ↔ PathTo g root n) ∧ (order g p root).Nodup := by
  rw [order_eq_canonical g hwf p hp root hr]
  simpa only [pathTo_iff_reach] using run_emits_reachable ⟨g.inc⟩ g.bound root hr hwf

/-- the processor state left behind by a traversal is again well-formed: `step` keeps both map lengths -/
theorem run_proc_ok (g : PG) (p : Proc) (hp : p.Ok) (root : Nat) :
    (run ⟨g.inc⟩ (resetMoveTo g p root)).disc.length = (run ⟨g.inc⟩ (resetMoveTo g p root)).fin.length :=
  run_induct ⟨g.inc⟩ (fun s => s.disc.length = s.fin.length)
    (fun s s' h hs => (step_length hs).1.trans (h.trans (step_length hs).2.symm)) _
    (by simp [resetMoveTo, resetMap, hp.length_eq])

theorem inputsOf_not_self (g : PG) (n : Nat) : n ∉ inputsOf g n := by
  simp [inputsOf]

theorem inputsOf_count (g : PG) (n m : Nat) (h : m ≠ n) : (inputsOf g n).count m = (g.inc n).count m := by
  unfold inputsOf
  rw [List.count_filter]; simp [h]

theorem inputsOf_sublist (g : PG) (n : Nat) : (inputsOf g n).Sublist (g.inc n) := by
  unfold inputsOf; exact List.filter_sublist

theorem mem_inputsOf {g : PG} {n m : Nat} : m ∈ inputsOf g n ↔ m ∈ g.inc n ∧ m ≠ n := by
  simp [inputsOf]

theorem invoke_self {β : Type} (F : Nat → List β → β) (g : PG) (buf : Nat → β) (x : Nat) :
    invoke F g buf x x = F x ((inputsOf g x).map buf) := if_pos rfl

theorem invoke_of_ne {β : Type} (F : Nat → List β → β) (g : PG) (buf : Nat → β) {x v : Nat} (h : v ≠ x) :
    invoke F g buf x v = buf v := if_neg h

theorem foldl_invoke_not_mem {β : Type} (F : Nat → List β → β) (g : PG) (l : List Nat) (buf : Nat → β) (v : Nat)
    (h : v ∉ l) : l.foldl (invoke F g) buf v = buf v := by
  induction l generalizing buf with
  | nil => rfl
  | cons x t ih =>
    rw [List.foldl_cons, ih _ (fun e => h (List.mem_cons_of_mem _ e)),
      invoke_of_ne F g buf fun (e : v = x) => h (e ▸ List.mem_cons_self)]

theorem foldl_invokeM {β : Type} (F : Nat → List β → β) (g : PG) (l : List Nat) (buf : Nat → β) :
    (l.foldl (invokeM F g) ⟨buf⟩).get = l.foldl (invoke F g) buf := by
  induction l generalizing buf with
  | nil => rfl
  | cons x t ih => exact ih (invoke F g buf x)

theorem snoc_induction {α : Type} {P : List α → Prop} (nil : P []) (snoc : ∀ l x, P l → P (l ++ [x])) :
    ∀ l, P l := by
  intro l; rw [← List.reverse_reverse l]
  induction l.reverse with
  | nil => exact nil
  | cons x r ih => rw [List.reverse_cons]; exact snoc _ _ ih

/-- invoking the nodes of a duplicate-free list in which every node comes after all of its inputs leaves
    every node with the functional value of its inputs' final buffers -/
theorem foldl_invoke_functional {β : Type} (F : Nat → List β → β) (g : PG) (buf : Nat → β) :
    ∀ (l : List Nat), l.Nodup →
      (∀ pre v post, l = pre ++ v :: post → ∀ w ∈ inputsOf g v, w ∈ pre) →
      ∀ v ∈ l, l.foldl (invoke F g) buf v = F v ((inputsOf g v).map (l.foldl (invoke F g) buf)) := by
  intro l
  induction l using snoc_induction with
  | nil => intro _ _ v hv; cases hv
  | snoc t x ih =>
    intro hn hpre v hv
    obtain ⟨hnt, -, hd⟩ := List.nodup_append.mp hn
    have hxt : x ∉ t := fun h => hd x h x (List.mem_singleton_self x) rfl
    rw [List.foldl_append, List.foldl_cons, List.foldl_nil]
    -- the inputs of a node of `t ++ [x]` lie in `t`, where the last invocation changes nothing
    have hin : ∀ u ∈ t ++ [x], ∀ w ∈ inputsOf g u,
        invoke F g (t.foldl (invoke F g) buf) x w = t.foldl (invoke F g) buf w := by
      intro u hu w hw
      refine invoke_of_ne F g _ fun e => hxt (e ▸ ?_)
      rcases List.mem_append.mp hu with hu | hu
      · obtain ⟨a, b, rfl⟩ := List.append_of_mem hu
        exact List.mem_append_left _ (hpre a u (b ++ [x]) (by simp) w hw)
      · rw [List.mem_singleton.mp hu] at hw; exact hpre t x [] rfl w hw
    rw [List.map_congr_left (hin v hv)]
    rcases List.mem_append.mp hv with hv' | hv'
    · rw [invoke_of_ne F g _ fun (e : v = x) => hxt (e ▸ hv')]
      exact ih hnt (fun pre u post h => hpre pre u (post ++ [x]) (by simp [h])) v hv'
    · rw [List.mem_singleton.mp hv']; exact invoke_self F g _ x

theorem foldl_invoke_eq_self {β : Type} (F : Nat → List β → β) (g : PG) (l : List Nat) (buf : Nat → β)
    (h : ∀ v ∈ l, buf v = F v ((inputsOf g v).map buf)) : l.foldl (invoke F g) buf = buf := by
  induction l with
  | nil => rfl
  | cons x t ih =>
    simp only [List.foldl_cons]
    have hx : invoke F g buf x = buf := by
      funext m
      by_cases hm : m = x
      · rw [hm, invoke_self]; exact (h x List.mem_cons_self).symm
      · exact invoke_of_ne F g buf hm
    rw [hx]; exact ih (fun v hv => h v (List.mem_cons_of_mem _ hv))

theorem mem_nodeIdentifiers (g : PG) (n : Nat) : n ∈ nodeIdentifiers g ↔ n < g.bound ∧ g.live n = true := by
  simp [nodeIdentifiers]

theorem nodup_nodeIdentifiers (g : PG) : (nodeIdentifiers g).Nodup :=
  List.Nodup.sublist List.filter_sublist List.nodup_range

theorem takeWhile_ne_snoc_prefix {k : Nat} : ∀ {l : List Nat}, (l.takeWhile (· != k)).length < l.length →
    l.takeWhile (· != k) ++ [k] <+: l
  | [], h => by simp at h
  | a :: l, h => by
    by_cases e : a = k
    · subst e; simp
    · have e' : (a != k) = true := by simpa using e
      rw [List.takeWhile_cons, if_pos e'] at h ⊢
      exact List.cons_prefix_cons.mpr ⟨rfl, takeWhile_ne_snoc_prefix (Nat.lt_of_succ_lt_succ h)⟩

/-- a property of all edges of a graph whose adjacency is a finite table is checked row by row
    (rows beyond the table are empty) -/
theorem forall_edges_of_rows {tbl : List (List Nat)} {P : Nat → Nat → Prop}
    (h : ∀ n, n < tbl.length → ∀ m ∈ tbl.getD n [], P n m) : ∀ n, ∀ m ∈ tbl.getD n [], P n m := by
  intro n m hm
  by_cases hn : n < tbl.length
  · exact h n hn m hm
  · simp [List.getD, List.getElem?_eq_none (Nat.le_of_not_lt hn)] at hm

end Dasp.Graph
