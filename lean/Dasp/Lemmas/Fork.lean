import Dasp.Model.Fork
import Dasp.Lemmas.SrcQueue
/-!
# Fork: one branch step refines the two-cursor specification (helper lemmas for C12)

`InvMe f cap s me x y` is the invariant seen from branch `me`: `x` is the cursor of `me`
(number of frames it has received), `y` the cursor of the other branch, `f` the source
stream.  `next` has two outcomes (`next_pop`, `next_pull`); the step lemma `next_me` is proved
once for the macro parameter `me`, over the two `min`/`max`-free readings of `InvMe`
(`invMe_lag`, `invMe_lead`).  Branch A / branch B are its two instances (`inv_iff_me`).

The two-cursor specification C12 is stated in is defined here as well: the cursors `Cur` with `Cur.step`,
`Cur.run`, `Cur.lead`; the schedules `Admissible`; the observations they promise, `specObs`, `specTrace`;
the invariant `Inv` (`InvMe` from branch A); and what a trace shows of one branch, `logOf`, `pullsOf`.
-/
namespace Dasp.Fork
open Dasp.SrcQueue

variable {α : Type}

structure InvMe (f : Nat → α) (cap : Nat) (s : St α) (me : Bool) (x y : Nat) : Prop where
  src_eq : ∀ i, s.src.at i = f i
  cap_eq : s.cap = cap
  pos_eq : s.src.pos = max x y
  q_eq : s.q = (List.range' (min x y) (max x y - min x y)).map f
  pend : (y < x → s.pending = !me) ∧ (x < y → s.pending = me)

theorem invMe_swap (f : Nat → α) (cap : Nat) (s : St α) (me : Bool) (x y : Nat) :
    InvMe f cap s (!me) y x ↔ InvMe f cap s me x y := by
  have swap : ∀ {me x y}, InvMe f cap s me x y → InvMe f cap s (!me) y x := fun h =>
    ⟨h.src_eq, h.cap_eq, by rw [h.pos_eq, Nat.max_comm], by rw [h.q_eq, Nat.max_comm, Nat.min_comm],
      fun hxy => (h.pend.2 hxy).trans (Bool.not_not _).symm, h.pend.1⟩
  exact ⟨fun h => Bool.not_not me ▸ swap h, swap⟩

/-! ### `InvMe` without `min`/`max`, according to who is behind

The distance `n` between the cursors is named (`x, x + n` when `me` lags, `y + n, y` when it leads): the queue
is then the run of length `n` from the lower cursor, and the step proofs neither split `min`/`max` nor subtract. -/

theorem invMe_lag {f : Nat → α} {cap : Nat} {s : St α} {me : Bool} {x n : Nat} :
    InvMe f cap s me x (x + n) ↔
      (∀ i, s.src.at i = f i) ∧ s.cap = cap ∧ s.src.pos = x + n ∧ s.q = (List.range' x n).map f ∧
      (0 < n → s.pending = me) := by
  have hle : x ≤ x + n := Nat.le_add_right x n
  constructor
  · rintro ⟨h1, h2, h3, h4, _, h6⟩
    rw [Nat.max_eq_right hle] at h3 h4; rw [Nat.min_eq_left hle, Nat.add_sub_cancel_left] at h4
    exact ⟨h1, h2, h3, h4, fun h => h6 (Nat.lt_add_of_pos_right h)⟩
  · rintro ⟨h1, h2, h3, h4, h6⟩
    refine ⟨h1, h2, ?_, ?_, fun h => absurd hle (Nat.not_le_of_lt h), fun h => h6 (Nat.pos_of_lt_add_right h)⟩
    · rw [Nat.max_eq_right hle]; exact h3
    · rw [Nat.max_eq_right hle, Nat.min_eq_left hle, Nat.add_sub_cancel_left]; exact h4

theorem invMe_lead {f : Nat → α} {cap : Nat} {s : St α} {me : Bool} {y n : Nat} :
    InvMe f cap s me (y + n) y ↔
      (∀ i, s.src.at i = f i) ∧ s.cap = cap ∧ s.src.pos = y + n ∧ s.q = (List.range' y n).map f ∧
      (0 < n → s.pending = !me) := by
  rw [← invMe_swap, invMe_lag]

theorem next_pop {s : St α} {me : Bool} {x : α} {r : List α} (hp : s.pending = me) (hq : s.q = x :: r) :
    next s me = (x, { s with q := r }) := by
  unfold next; rw [if_pos hp, hq]

/-- lib.rs:1169-1173: nothing is queued for `me` — the flag says so, or its queue ran dry and the flag
    flips — so the source is pulled and the frame queued for the other branch; both ways end in the
    same state -/
theorem next_pull {s : St α} {me : Bool} (h : s.pending = me → s.q = []) :
    next s me = (s.src.at s.src.pos,
      { src := { s.src with pos := s.src.pos + 1 }, q := push s.q s.cap (s.src.at s.src.pos),
        cap := s.cap, pending := !me }) := by
  unfold next
  by_cases hp : s.pending = me
  · rw [if_pos hp, h hp]; rfl
  · rw [if_neg hp]
    simp only [pull, Src.next, Bool.eq_not_of_ne hp]

theorem q_nil_of_lead {f : Nat → α} {s : St α} {me : Bool} {y n : Nat} (hq : s.q = (List.range' y n).map f)
    (hp : 0 < n → s.pending = !me) (h : s.pending = me) : s.q = [] := by
  have : ¬ 0 < n := fun h' => (Bool.not_eq_self me).mp ((hp h').symm.trans h)
  rw [hq, Nat.eq_zero_of_not_pos this]; rfl

/-- one `next` on branch `me` under the schedule side condition (its lead stays ≤ cap):
    it receives the frame at its cursor and the invariant holds for the advanced cursor -/
theorem next_me (f : Nat → α) (cap : Nat) (s : St α) (me : Bool) (x y : Nat)
    (hi : InvMe f cap s me x y) (hlead : x + 1 - y ≤ cap) :
    (next s me).1 = f x ∧ InvMe f cap (next s me).2 me (x + 1) y := by
  rcases Nat.lt_or_ge x y with hxy | hyx
  · -- `me` lags by `n + 1`: the queue is for `me`, and its head is frame `x`;
    -- `y` is read as `x + (n + 1)` before the pop and as `(x + 1) + n` after it
    obtain ⟨n, rfl⟩ := Nat.exists_eq_add_of_lt hxy
    rw [Nat.add_assoc] at hi ⊢
    obtain ⟨hsrc, hcap, hpos, hq, hp⟩ := invMe_lag.1 hi
    rw [next_pop (hp (Nat.succ_pos n)) hq]
    rw [← Nat.add_assoc, Nat.add_right_comm] at hpos ⊢
    exact ⟨rfl, invMe_lag.2 ⟨hsrc, hcap, hpos, rfl, fun _ => hp (Nat.succ_pos n)⟩⟩
  · -- `me` is level or leads by `n`: it pulls frame `x` and queues it for the other branch;
    -- the queue holds `n` frames and `hlead` says `n < cap`, so `push` evicts nothing
    obtain ⟨n, rfl⟩ := Nat.exists_eq_add_of_le hyx
    obtain ⟨hsrc, hcap, hpos, hq, hp⟩ := invMe_lead.1 hi
    have hlen : s.q.length = n := by rw [hq, List.length_map, List.length_range']
    rw [next_pull (q_nil_of_lead hq hp), hpos, hsrc]
    refine ⟨rfl, (invMe_lead (n := n + 1)).2 ⟨hsrc, hcap, rfl, ?_, fun _ => rfl⟩⟩
    show push s.q s.cap (f (y + n)) = _
    rw [push_of_ne _ (by omega), hq, run_snoc]

/-- `pending_frames()` of branch `me` is the number of frames it lags behind -/
theorem pending_me (f : Nat → α) (cap : Nat) (s : St α) (me : Bool) (x y : Nat)
    (hi : InvMe f cap s me x y) : pendingFrames s me = y - x := by
  unfold pendingFrames
  rcases Nat.lt_or_ge x y with hxy | hyx
  · obtain ⟨n, rfl⟩ := Nat.exists_eq_add_of_lt hxy
    rw [Nat.add_assoc] at hi ⊢
    obtain ⟨_, _, _, hq, hp⟩ := invMe_lag.1 hi
    rw [if_pos (hp (Nat.succ_pos n)), hq, List.length_map, List.length_range', Nat.add_sub_cancel_left]
  · obtain ⟨n, rfl⟩ := Nat.exists_eq_add_of_le hyx
    obtain ⟨_, _, _, hq, hp⟩ := invMe_lead.1 hi
    rw [Nat.sub_eq_zero_of_le hyx]
    split
    · rename_i h; rw [q_nil_of_lead hq hp h]; rfl
    · rfl

/-- a branch for which nothing is queued, pulled alone: every pull is a source pull, whatever the
    capacity and wherever the other cursor is -/
theorem solo_lead (f : Nat → α) (me : Bool) (n : Nat) : ∀ s : St α,
    (∀ i, s.src.at i = f i) → (s.pending = me → s.q = []) →
    (solo s me n).1 = (List.range' s.src.pos n).map f := by
  induction n with
  | zero => intro s _ _; rfl
  | succ n ih =>
    intro s hsrc hnil
    show (next s me).1 :: (solo (next s me).2 me n).1 = _
    have h := ih (next s me).2
    rw [next_pull hnil] at h ⊢
    rw [h hsrc (fun h => ((Bool.not_eq_self me).mp h).elim), hsrc, List.range'_succ, List.map_cons]

/-- from any invariant state, however far apart the branches are, `n` pulls on branch `me`
    alone yield the `n` consecutive source frames starting at its cursor: first whatever is
    queued for it, then fresh frames — the lead bound does not constrain a lone branch -/
theorem solo_of_invMe (f : Nat → α) (cap : Nat) (me : Bool) (n : Nat) : ∀ (s : St α) (x y : Nat),
    InvMe f cap s me x y → (solo s me n).1 = (List.range' x n).map f := by
  induction n with
  | zero => intro s x y _; rfl
  | succ n ih =>
    intro s x y hi
    by_cases hxy : x < y
    · obtain ⟨h1, h2⟩ := next_me f cap s me x y hi (by omega)
      show (next s me).1 :: (solo (next s me).2 me n).1 = _
      rw [h1, ih _ _ _ h2, List.range'_succ, List.map_cons]
    · obtain ⟨m, rfl⟩ := Nat.exists_eq_add_of_le (Nat.le_of_not_lt hxy)
      obtain ⟨hsrc, _, hpos, hq, hp⟩ := invMe_lead.1 hi
      rw [← hpos]
      exact solo_lead f me (n + 1) s hsrc (q_nil_of_lead hq hp)

/-- abstract state: how many frames branch A resp. B has received -/
structure Cur where
  a : Nat
  b : Nat
  deriving DecidableEq

def Cur.step (c : Cur) : Op → Cur
  | .pull true => { c with a := c.a + 1 }
  | .pull false => { c with b := c.b + 1 }
  | _ => c

def Cur.run (c : Cur) (ops : List Op) : Cur := ops.foldl Cur.step c

def Cur.lead (c : Cur) : Nat := max c.a c.b - min c.a c.b

/-- the schedule never lets either branch get ahead of the other by more than `cap` -/
def Admissible (cap : Nat) (c : Cur) : List Op → Prop
  | [] => True
  | o :: r => (c.step o).lead ≤ cap ∧ Admissible cap (c.step o) r

/-- what the property promises to be observable after `o`: the frame at the pulling branch's
    cursor, each branch's lag, one source pull per distinct frame handed out -/
def specObs (f : Nat → α) (c : Cur) (o : Op) : Obs α :=
  { frame := match o with
      | .pull true => some (f c.a)
      | .pull false => some (f c.b)
      | _ => none
    pendA := (c.step o).b - (c.step o).a
    pendB := (c.step o).a - (c.step o).b
    pulls := max (c.step o).a (c.step o).b }

def specTrace (f : Nat → α) (c : Cur) : List Op → List (Obs α)
  | [] => []
  | o :: r => specObs f c o :: specTrace f (c.step o) r

/-- the invariant of C12: `InvMe` read from branch A (`true`), with the cursors `c` -/
def Inv (f : Nat → α) (cap : Nat) (s : St α) (c : Cur) : Prop := InvMe f cap s true c.a c.b

/-- the cursor of branch `me` (`true` = A) -/
def Cur.of (c : Cur) (me : Bool) : Nat := if me then c.a else c.b

def Op.isPull : Op → Bool
  | .pull _ => true
  | _ => false

theorem inv_iff_me {f : Nat → α} {cap : Nat} {s : St α} {c : Cur} (me : Bool) :
    Inv f cap s c ↔ InvMe f cap s me (c.of me) (c.of (!me)) := by
  cases me
  · exact invMe_swap f cap s false c.b c.a
  · exact Iff.rfl

theorem Cur.of_step_pull (c : Cur) (m me : Bool) :
    (c.step (.pull m)).of me = c.of me + if m = me then 1 else 0 := by
  cases m <;> cases me <;> rfl

theorem Cur.of_sub_le {c : Cur} {cap : Nat} (h : c.lead ≤ cap) (me : Bool) : c.of me - c.of (!me) ≤ cap := by
  refine Nat.le_trans ?_ h
  cases me
  · exact Nat.le_trans (Nat.sub_le_sub_right (Nat.le_max_right c.a c.b) _) (Nat.sub_le_sub_left (Nat.min_le_left c.a c.b) _)
  · exact Nat.le_trans (Nat.sub_le_sub_right (Nat.le_max_left c.a c.b) _) (Nat.sub_le_sub_left (Nat.min_le_right c.a c.b) _)

/-! ### schedule entries that are not pulls change nothing -/

theorem Op.eq_pull_of_isPull {o : Op} (h : o.isPull = true) : ∃ m, o = .pull m := by
  cases o <;> first | exact ⟨_, rfl⟩ | cases h

theorem step_of_not_pull {s : St α} {o : Op} (h : o.isPull = false) : step s o = (look s none, s) := by
  cases o <;> first | rfl | cases h

theorem Cur.step_of_not_pull {c : Cur} {o : Op} (h : o.isPull = false) : c.step o = c := by
  cases o <;> first | rfl | cases h

theorem specObs_of_not_pull (f : Nat → α) {c : Cur} {o : Op} (h : o.isPull = false) :
    specObs f c o = { frame := none, pendA := c.b - c.a, pendB := c.a - c.b, pulls := max c.a c.b } := by
  cases o <;> first | rfl | cases h

theorem look_spec (f : Nat → α) (cap : Nat) (s : St α) (c : Cur) (hi : Inv f cap s c) (fr : Option α) :
    look s fr = { frame := fr, pendA := c.b - c.a, pendB := c.a - c.b, pulls := max c.a c.b } := by
  have hA := pending_me f cap s true c.a c.b hi
  have hB := pending_me f cap s false c.b c.a ((inv_iff_me false).1 hi)
  simp only [look, hA, hB, hi.pos_eq]

theorem step_spec (f : Nat → α) (cap : Nat) (s : St α) (c : Cur) (o : Op)
    (hi : Inv f cap s c) (hl : (c.step o).lead ≤ cap) :
    (step s o).1 = specObs f c o ∧ Inv f cap (step s o).2 (c.step o) := by
  cases ho : o.isPull with
  | false =>
    rw [step_of_not_pull ho, Cur.step_of_not_pull ho, specObs_of_not_pull f ho]
    exact ⟨look_spec f cap s c hi none, hi⟩
  | true =>
    obtain ⟨me, rfl⟩ := Op.eq_pull_of_isPull ho
    have e1 : (c.step (.pull me)).of me = c.of me + 1 := by rw [Cur.of_step_pull, if_pos rfl]
    have e2 : (c.step (.pull me)).of (!me) = c.of (!me) := by
      rw [Cur.of_step_pull, if_neg (Bool.eq_not_self me).mp]; rfl
    have hl' := Cur.of_sub_le hl me
    rw [e1, e2] at hl'
    obtain ⟨h1, h2⟩ := next_me f cap s me _ _ ((inv_iff_me me).1 hi) hl'
    rw [← e1, ← e2] at h2
    have hi' : Inv f cap (next s me).2 (c.step (.pull me)) := (inv_iff_me me).2 h2
    refine ⟨?_, hi'⟩
    show look (next s me).2 (some (next s me).1) = _
    rw [look_spec f cap _ _ hi', h1]
    cases me <;> rfl

/-- the frames handed to branch `me`, in order, given the schedule and the observed trace -/
def logOf (me : Bool) : List Op → List (Obs α) → List α
  | .pull m :: r, o :: t => if m = me then o.frame.toList ++ logOf me r t else logOf me r t
  | _ :: r, _ :: t => logOf me r t
  | _, _ => []

/-- how often the schedule pulls branch `me` -/
def pullsOf (me : Bool) (ops : List Op) : Nat := ops.countP (· = .pull me)

theorem logOf_cons_of_not_pull (me : Bool) {o : Op} (h : o.isPull = false) (r : List Op) (x : Obs α)
    (t : List (Obs α)) : logOf me (o :: r) (x :: t) = logOf me r t := by
  cases o <;> first | rfl | cases h

theorem pullsOf_cons_of_not_pull (me : Bool) {o : Op} (h : o.isPull = false) (r : List Op) :
    pullsOf me (o :: r) = pullsOf me r := by
  cases o with
  | pull m => cases h
  | _ => exact List.countP_cons_of_neg (by simp)

theorem pullsOf_pull (me m : Bool) (r : List Op) :
    pullsOf me (.pull m :: r) = pullsOf me r + if m = me then 1 else 0 := by
  simp only [pullsOf, List.countP_cons, Op.pull.injEq, decide_eq_true_eq]

theorem specObs_pull_frame (f : Nat → α) (c : Cur) (m : Bool) :
    (specObs f c (.pull m)).frame = some (f (c.of m)) := by
  cases m <;> rfl

theorem logOf_spec (f : Nat → α) (me : Bool) (ops : List Op) : ∀ c : Cur,
    logOf me ops (specTrace f c ops) = (List.range' (c.of me) (pullsOf me ops)).map f := by
  induction ops with
  | nil => intro c; rfl
  | cons o r ih =>
    intro c
    cases ho : o.isPull with
    | false =>
      rw [specTrace, logOf_cons_of_not_pull me ho, pullsOf_cons_of_not_pull me ho, ih, Cur.step_of_not_pull ho]
    | true =>
      obtain ⟨m, rfl⟩ := Op.eq_pull_of_isPull ho
      show (if m = me then (specObs f c (.pull m)).frame.toList ++ logOf me r (specTrace f _ r)
        else logOf me r (specTrace f _ r)) = _
      rw [ih, Cur.of_step_pull, pullsOf_pull, specObs_pull_frame]
      by_cases hm : m = me
      · subst hm; simp only [if_true, Option.toList, List.range'_succ, List.map_cons, List.singleton_append]
      · simp only [if_neg hm, Nat.add_zero]

theorem cur_run_of (me : Bool) (ops : List Op) : ∀ c : Cur, (c.run ops).of me = c.of me + pullsOf me ops := by
  induction ops with
  | nil => intro c; rfl
  | cons o r ih =>
    intro c
    show ((c.step o).run r).of me = _
    rw [ih]
    cases ho : o.isPull with
    | false => rw [Cur.step_of_not_pull ho, pullsOf_cons_of_not_pull me ho]
    | true =>
      obtain ⟨m, rfl⟩ := Op.eq_pull_of_isPull ho
      rw [Cur.of_step_pull, pullsOf_pull]; omega

end Dasp.Fork
