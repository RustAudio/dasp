import Dasp.Model.Window
import Mathlib.Algebra.Order.Floor.Ring
import Mathlib.Data.Rat.Floor
import Mathlib.Tactic.Ring
/-! Helper lemmas for C20: the windower schedule, over the actual remaining slice, and the
    exact-arithmetic phase recurrence of `Window`. `count`, the number of chunks C20's schedule theorems speak of,
    is defined here. -/
namespace Dasp.Window

variable {α : Type}

/-- the number of chunks a windower over `len` remaining frames still yields (for bin, hop ≥ 1) -/
def count (bin hop len : Nat) : Nat := if bin ≤ len then (len - bin) / hop + 1 else 0

/-- the inner test of `Windower::next` only avoids slicing past the end: dropping `hop` frames gives the same -/
theorem next_eq (w : Windower α) :
    next w = if w.bin ≤ w.frames.length then some (w.frames.take w.bin, { w with frames := w.frames.drop w.hop })
      else none := by
  unfold next
  split
  · split
    · rfl
    · rw [List.drop_eq_nil_of_le (by omega)]
  · rfl

/-- the chunk at the front, then those of the slice shortened by `hop` (false for `bin = 0`, `hop > len`) -/
theorem count_step {bin hop len : Nat} (hh : 1 ≤ hop) (hb : 1 ≤ bin) (h : bin ≤ len) :
    count bin hop len = count bin hop (len - hop) + 1 := by
  unfold count
  rw [if_pos h]
  by_cases h' : bin ≤ len - hop
  · rw [if_pos h', show len - bin = (len - hop - bin) + hop by omega, Nat.add_div_right _ (by omega)]
  · rw [if_neg h', Nat.div_eq_of_lt (by omega)]

theorem chunksFuel_spec (fuel : Nat) (w : Windower α) (hh : 1 ≤ w.hop) (hb : 1 ≤ w.bin)
    (hf : w.frames.length < fuel) :
    chunksFuel fuel w =
      (List.range (count w.bin w.hop w.frames.length)).map (fun k => (w.frames.drop (k * w.hop)).take w.bin) := by
  induction fuel generalizing w with
  | zero => omega
  | succ fuel ih =>
    rw [chunksFuel, next_eq]
    by_cases h : w.bin ≤ w.frames.length
    · rw [if_pos h]
      show w.frames.take w.bin :: chunksFuel fuel ⟨w.bin, w.hop, w.frames.drop w.hop⟩ = _
      rw [ih ⟨w.bin, w.hop, w.frames.drop w.hop⟩ hh hb (by simp only [List.length_drop]; omega), List.length_drop,
        count_step hh hb h,
        List.range_succ_eq_map, List.map_cons, List.map_map, Nat.zero_mul, List.drop_zero]
      congr 1
      apply List.map_congr_left; intro k _
      simp only [Function.comp, List.drop_drop, Nat.succ_mul, Nat.add_comm]
    · rw [if_neg h, count, if_neg h]; rfl

theorem count_mul_le {bin hop len k : Nat} (hk : k < count bin hop len) :
    k * hop + bin ≤ len := by
  unfold count at hk
  split at hk
  · have h1 : k ≤ (len - bin) / hop := by omega
    have h2 : k * hop ≤ (len - bin) / hop * hop := Nat.mul_le_mul_right _ h1
    have h3 := Nat.div_mul_le_self (len - bin) hop
    omega
  · omega

theorem chunks_getElem (w : Windower α) (hh : 1 ≤ w.hop) (hb : 1 ≤ w.bin) (k : Nat)
    (hk : k < count w.bin w.hop w.frames.length) :
    (chunks w)[k]? = some ((w.frames.drop (k * w.hop)).take w.bin) := by
  rw [chunks, chunksFuel_spec _ w hh hb (by omega), List.getElem?_map, List.getElem?_range hk]; rfl

theorem iterate_chunks (cap : Nat) (w : Windower α) :
    (iterate cap w).filterMap (·.2) = chunksFuel cap w := by
  induction cap generalizing w with
  | zero => rfl
  | succ cap ih =>
    simp only [iterate, chunksFuel]
    cases h : next w with
    | none => simp
    | some r => obtain ⟨c, w'⟩ := r; simp [ih]

@[simp] theorem rat_zero (t : Rat) (c : Rat → Rat) : (ratArith t c).zero = 0 := rfl
@[simp] theorem rat_one (t : Rat) (c : Rat → Rat) : (ratArith t c).one = 1 := rfl
@[simp] theorem rat_half (t : Rat) (c : Rat → Rat) : (ratArith t c).half = 1 / 2 := rfl
@[simp] theorem rat_twoPi (t : Rat) (c : Rat → Rat) : (ratArith t c).twoPi = t := rfl
@[simp] theorem rat_cos (t : Rat) (c : Rat → Rat) : (ratArith t c).cos = c := rfl
@[simp] theorem rat_ofNat (t : Rat) (c : Rat → Rat) (n : Nat) : (ratArith t c).ofNat n = (n : Rat) := rfl
@[simp] theorem rat_add (t : Rat) (c : Rat → Rat) (a b : Rat) : (ratArith t c).add a b = a + b := rfl
@[simp] theorem rat_sub (t : Rat) (c : Rat → Rat) (a b : Rat) : (ratArith t c).sub a b = a - b := rfl
@[simp] theorem rat_mul (t : Rat) (c : Rat → Rat) (a b : Rat) : (ratArith t c).mul a b = a * b := rfl
@[simp] theorem rat_div (t : Rat) (c : Rat → Rat) (a b : Rat) : (ratArith t c).div a b = a / b := rfl
@[simp] theorem rat_wrap1 (t : Rat) (c : Rat → Rat) (a : Rat) : (ratArith t c).wrap1 a = a - (a.floor : Rat) := rfl

theorem hann_congr (t : Rat) (c : Rat → Rat) {p q : Rat} (h : c (p * t) = c (q * t)) :
    hann (ratArith t c) p = hann (ratArith t c) q :=
  congrArg (fun x => (1 : Rat) / 2 * (1 - x)) h

/-- fractional part of a quotient of naturals, in the form `wrap1` unfolds to -/
theorem fract_div (a d : Nat) :
    (a : Rat) / d - (((a : Rat) / d).floor : Rat) = ((a % d : Nat) : Rat) / d :=
  Int.fract_div_natCast_eq_div_natCast_mod

/-- the phases from `(m mod d)/d` on, at step `1/d`. The window starts at `m = 0`; the induction needs every start,
    since one step leaves the phase at `((m + 1) mod d)/d`. -/
theorem phasesFrom_rat (t : Rat) (c : Rat → Rat) (d cnt m : Nat) :
    phasesFrom (ratArith t c) cnt ⟨1 / (d : Rat), ((m % d : Nat) : Rat) / d⟩ =
      (List.range cnt).map (fun i => (((m + i) % d : Nat) : Rat) / d) := by
  induction cnt generalizing m with
  | zero => rfl
  | succ cnt ih =>
    have e : ((m % d : Nat) : Rat) / d + 1 / d = ((m % d + 1 : Nat) : Rat) / d := by push_cast; ring
    simp only [phasesFrom, nextPhase, rat_add, rat_wrap1]
    rw [e, fract_div, Nat.mod_add_mod, ih (m + 1), List.range_succ_eq_map, List.map_cons, List.map_map]
    simp only [Nat.add_zero, Function.comp_def, Nat.add_assoc, Nat.add_comm 1]

end Dasp.Window
