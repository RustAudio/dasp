import Dasp.Model.Slice
/-! Helper lemmas for C10: index arithmetic of the frame view, the unchecked zip loop, membership in the heap model's id lists. -/
namespace Dasp.Slice

/-- every channel of every frame of the view lies inside the sample slice -/
theorem mul_add_lt_of_lt_div {n len i ch : Nat} (hi : i < len / n) (hc : ch < n) : i * n + ch < len := by
  have h1 : (len / n) * n ≤ len := Nat.div_mul_le_self len n
  have h2 : (i + 1) * n ≤ (len / n) * n := Nat.mul_le_mul_right n hi
  have h3 : (i + 1) * n = i * n + n := Nat.succ_mul i n
  omega

/-- the unchecked loop, started at index `p.length` with the first `p.length` frames already
    processed, on slices of equal remaining length, never leaves the slices and computes `zipWith` -/
theorem zipLoop_spec {FA FB} (f : FA → FB → FA) :
    ∀ (a : List FA) (b : List FB) (p : List FA) (q : List FB), a.length = b.length → p.length = q.length →
      zipLoop f (q ++ b) a.length p.length (p ++ a) = some (p ++ List.zipWith f a b)
  | [], [], p, q, _, _ => by simp [zipLoop]
  | x :: xs, y :: ys, p, q, hab, hpq => by
    have h1 : (p ++ x :: xs)[p.length]? = some x := by simp
    have h2 : (q ++ y :: ys)[p.length]? = some y := by rw [hpq]; simp
    have h3 : (p ++ x :: xs).set p.length (f x y) = (p ++ [f x y]) ++ xs := by simp
    have ih := zipLoop_spec f xs ys (p ++ [f x y]) (q ++ [y]) (by simpa using hab) (by simp [hpq])
    simp only [List.length_cons, zipLoop, h1, h2, h3]
    simpa using ih
  | [], _ :: _, _, _, hab, _ => by simp at hab
  | _ :: _, [], _, _, hab, _ => by simp at hab

theorem zipWith_snd {F} (a b : List F) (h : a.length = b.length) : List.zipWith (fun _ y => y) a b = b :=
  (List.map_zipWith (f := Prod.snd) (g := Prod.mk)).symm.trans (List.map_snd_zip (Nat.le_of_eq h.symm))

theorem Heap.mem_orphans {h : Heap} {i : Nat} : i ∈ h.orphans ↔ i ∈ h.liveIds ∧ i ∉ h.owned := by
  simp [Heap.orphans]

theorem Heap.mem_liveIds_drop {h : Heap} {i id : Nat} : i ∈ (h.drop id).liveIds ↔ i ∈ h.liveIds ∧ i ≠ id := by
  simp only [Heap.liveIds, Heap.drop, List.mem_map, List.mem_filter, bne_iff_ne]
  constructor
  · rintro ⟨p, ⟨hp, hne⟩, rfl⟩; exact ⟨⟨p, hp, rfl⟩, hne⟩
  · rintro ⟨⟨p, hp, rfl⟩, hne⟩; exact ⟨p, ⟨hp, hne⟩, rfl⟩

end Dasp.Slice
