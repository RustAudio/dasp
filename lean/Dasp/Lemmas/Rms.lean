import Dasp.Model.Rms
import Dasp.Lemmas.FieldArith
import Mathlib.Algebra.Order.Field.Basic
import Mathlib.Algebra.BigOperators.Group.List.Basic
import Mathlib.Algebra.Order.BigOperators.Group.List
import Mathlib.Tactic.Linarith
import Mathlib.Tactic.Ring

/-!
# The RMS detector in exact arithmetic: the state is a function of the inputs seen

At any linearly ordered field (`Dasp.Exact.fieldArith`).  `Chan.spec n live` is the state one channel of `Model/Rms.lean`
must be in after the inputs `live`: the window holds the squares of the last `n` of them (zeros before, `specWindow`), the
running sum is the sum of the window.  Every operation maps specified states to specified states (`Chan.*_spec`,
`Rms.*_spec` per frame), so a whole history `ops` leaves the state specified by `hist ch ops` and yields the specified
outputs (`Rms.run_spec`).  `Adaptor.take_eq_feed`: the `Signal` adaptor is the detector fed with its source's frames.
-/

set_option linter.unusedSectionVars false  -- the lemmas about lists alone do not use the order on `K`
set_option linter.dupNamespace false  -- `Dasp.Rms.Rms` is the detector of `Model/Rms.lean`

namespace Dasp.Rms
open Dasp Dasp.Exact

variable {K : Type} [Field K] [LinearOrder K] [IsStrictOrderedRing K]

def lastN {β : Type} (n : Nat) (l : List β) : List β := l.drop (l.length - n)

/-- the squares a window of `n` frames holds after the inputs `live` (oldest first) went into a
    zero-initialised window: the zero window counts as preceding silence -/
def specWindow (n : Nat) (live : List K) : List K :=
  lastN n (List.replicate n 0 ++ live.map fun x => x * x)

/-- the mean of the squares of the most recent `n` inputs (silence before the first) -/
def meanSq (n : Nat) (live : List K) : K := (specWindow n live).sum / n

/-- the channel state the specification prescribes after the inputs `live` -/
def Chan.spec (n : Nat) (live : List K) : Chan K := ⟨specWindow n live, (specWindow n live).sum⟩

/-- the padding that is left, then the squares of the last `n` inputs -/
theorem specWindow_eq (n : Nat) (live : List K) :
    specWindow n live = List.replicate (n - live.length) 0 ++ (lastN n live).map fun x => x * x := by
  rw [specWindow, lastN, lastN, List.drop_append, List.drop_replicate, List.map_drop, List.length_append,
    List.length_replicate, List.length_map, Nat.add_sub_cancel_left]

theorem specWindow_nil (n : Nat) : specWindow n ([] : List K) = List.replicate n 0 := by
  simp [specWindow_eq, lastN]

theorem specWindow_length (n : Nat) (live : List K) : (specWindow n live).length = n := by
  rw [specWindow_eq, List.length_append, List.length_replicate, List.length_map, lastN, List.length_drop]; omega

theorem specWindow_nonneg (n : Nat) (live : List K) : ∀ y ∈ specWindow n live, 0 ≤ y := by
  intro y hy
  rw [specWindow_eq] at hy
  rcases List.mem_append.mp hy with h | h
  · rw [List.eq_of_mem_replicate h]
  · obtain ⟨x, _, rfl⟩ := List.mem_map.mp h
    exact mul_self_nonneg x

/-- the padding is silent: the window sum is the sum of the squares of the last `min n len` inputs -/
theorem specWindow_sum (n : Nat) (live : List K) :
    (specWindow n live).sum = ((lastN n live).map fun x => x * x).sum := by
  simp [specWindow_eq]

theorem specWindow_snoc {n : Nat} (hn : 1 ≤ n) (live : List K) (x : K) :
    specWindow n (live ++ [x]) = (specWindow n live).drop 1 ++ [x * x] := by
  unfold specWindow lastN
  rw [List.map_append, ← List.append_assoc, List.drop_drop, List.drop_append_of_le_length (by simp; omega)]
  congr 2
  simp only [List.length_append, List.length_replicate, List.length_map, List.length_cons, List.length_nil]
  omega

theorem headD_add_sum_drop (w : List K) : w.headD 0 + (w.drop 1).sum = w.sum := by
  cases w <;> simp

theorem Chan.init_eq (n : Nat) : (Chan.init n : Chan K) = Chan.spec n [] := by
  simp [Chan.init, Chan.new, Chan.spec, specWindow_nil, Arith.zero]

/-- **refinement step**: on the specified state `next_squared` never clamps, moves to the specified
    state of the extended history and returns the mean of the squares of the last `n` inputs -/
theorem Chan.nextSquared_spec {n : Nat} (hn : 1 ≤ n) (live : List K) (x : K) :
    (Chan.spec n live).nextSquared x = (Chan.spec n (live ++ [x]), meanSq n (live ++ [x])) := by
  have hsum : (specWindow n live).sum + x * x - (specWindow n live).headD 0 = (specWindow n (live ++ [x])).sum := by
    rw [specWindow_snoc hn, List.sum_append]
    have := headD_add_sum_drop (specWindow n live)
    simp only [List.sum_cons, List.sum_nil, add_zero]
    linarith
  have hnn : ¬ (specWindow n (live ++ [x])).sum < 0 :=
    not_lt.mpr (List.sum_nonneg (specWindow_nonneg n _))
  simp only [Chan.nextSquared, Chan.spec, Chan.calcSquared, meanSq, Arith.mul, Arith.add, Arith.sub,
    Arith.zero, Arith.lt, Arith.div, Arith.ofLen, hsum, decide_eq_true_eq, if_neg hnn]
  rw [← specWindow_snoc hn, specWindow_length]

theorem Chan.next_spec {n : Nat} (hn : 1 ≤ n) (sqrt : K → K) (live : List K) (x : K) :
    (Chan.spec n live).next sqrt x = (Chan.spec n (live ++ [x]), sqrt (meanSq n (live ++ [x]))) := by
  simp [Chan.next, Chan.nextSquared_spec hn]

theorem Chan.reset_spec (n : Nat) (live : List K) : (Chan.spec n live).reset = Chan.spec n [] := by
  simp only [Chan.reset, Chan.spec, specWindow_nil, Arith.zero]
  have : (specWindow n live).map (fun _ => (0 : K)) = List.replicate n 0 := by
    rw [List.map_const', specWindow_length]
  simp [this]

theorem Chan.current_spec (n : Nat) (sqrt : K → K) (live : List K) :
    (Chan.spec n live).current sqrt = sqrt (meanSq n live) := by
  simp [Chan.current, Chan.calcSquared, Chan.spec, meanSq, Arith.div, Arith.ofLen, specWindow_length]

theorem Chan.windowFrames_spec (n : Nat) (live : List K) : (Chan.spec n live).windowFrames = n := by
  simp [Chan.windowFrames, Chan.spec, specWindow_length]

/-- the specified detector state after the per-channel input histories `lives` -/
def Rms.spec (n : Nat) (lives : List (List K)) : Rms K := ⟨lives.map (Chan.spec n)⟩

/-- append one frame to the per-channel histories -/
def pushFrame (lives : List (List K)) (f : List K) : List (List K) :=
  List.zipWith (fun l x => l ++ [x]) lives f

theorem Rms.init_eq (ch n : Nat) : (Rms.init ch n : Rms K) = Rms.spec n (List.replicate ch []) := by
  simp [Rms.init, Rms.spec, Chan.init_eq]

private theorem zipWith_spec {β : Type} {n : Nat} (g : Chan K → K → Chan K × β) (h : List K → K → β)
    (hg : ∀ l x, g (Chan.spec n l) x = (Chan.spec n (l ++ [x]), h l x)) :
    ∀ (lives : List (List K)) (f : List K),
      (List.zipWith g (lives.map (Chan.spec n)) f).map Prod.fst = (pushFrame lives f).map (Chan.spec n) ∧
      (List.zipWith g (lives.map (Chan.spec n)) f).map Prod.snd = List.zipWith h lives f := by
  intro lives
  induction lives with
  | nil => intro f; simp [pushFrame]
  | cons l ls ih =>
    intro f
    cases f with
    | nil => simp [pushFrame]
    | cons x xs =>
      have := ih xs
      simp only [pushFrame] at this ⊢
      simp [hg, this.1, this.2]

theorem Rms.nextSquared_spec {n : Nat} (hn : 1 ≤ n) (lives : List (List K)) (f : List K) :
    (Rms.spec n lives).nextSquared f =
      (Rms.spec n (pushFrame lives f), List.zipWith (fun l x => meanSq n (l ++ [x])) lives f) := by
  have := zipWith_spec (n := n) Chan.nextSquared (fun l x => meanSq n (l ++ [x])) (Chan.nextSquared_spec hn) lives f
  simp only [Rms.nextSquared, Rms.spec, this.1, this.2]

theorem Rms.next_spec {n : Nat} (hn : 1 ≤ n) (sqrt : K → K) (lives : List (List K)) (f : List K) :
    (Rms.spec n lives).next sqrt f =
      (Rms.spec n (pushFrame lives f), List.zipWith (fun l x => sqrt (meanSq n (l ++ [x]))) lives f) := by
  have := zipWith_spec (n := n) (Chan.next sqrt) (fun l x => sqrt (meanSq n (l ++ [x]))) (Chan.next_spec hn sqrt) lives f
  simp only [Rms.next, Rms.spec, this.1, this.2]

theorem Rms.reset_spec (n : Nat) (lives : List (List K)) :
    (Rms.spec n lives).reset = Rms.spec n (lives.map fun _ => []) := by
  simp [Rms.reset, Rms.spec, Chan.reset_spec, Function.comp_def]

theorem Rms.current_spec (n : Nat) (sqrt : K → K) (lives : List (List K)) :
    (Rms.spec n lives).current sqrt = lives.map fun l => sqrt (meanSq n l) := by
  simp [Rms.current, Rms.spec, Chan.current_spec, Function.comp_def]

/-- what a history does to the per-channel input histories since the last reset -/
def histStep (lives : List (List K)) : Op K → List (List K)
  | .next f => pushFrame lives f
  | .nextSquared f => pushFrame lives f
  | .reset => lives.map fun _ => []
  | .current => lives
  | .windowFrames => lives
  | .parts => lives

/-- the per-channel inputs since the last reset (or the start), after the history `ops` -/
def hist (ch : Nat) (ops : List (Op K)) : List (List K) := ops.foldl histStep (List.replicate ch [])

theorem Rms.step_spec {n : Nat} (hn : 1 ≤ n) (sqrt : K → K) (lives : List (List K)) (op : Op K) :
    ((Rms.spec n lives).step sqrt op).1 = Rms.spec n (histStep lives op) := by
  cases op <;> simp [Rms.step, histStep, Rms.next_spec hn, Rms.nextSquared_spec hn, Rms.reset_spec]

theorem Rms.run_spec {n : Nat} (hn : 1 ≤ n) (sqrt : K → K) (ops : List (Op K)) :
    ∀ lives : List (List K), ((Rms.spec n lives).run sqrt ops).1 = Rms.spec n (ops.foldl histStep lives) := by
  induction ops with
  | nil => intro lives; simp [Rms.run]
  | cons op ops ih =>
    intro lives
    have h1 := Rms.step_spec hn sqrt lives op
    simp only [Rms.run, List.foldl_cons]
    rw [← ih, ← h1]

/-- frames of the right channel count -/
def Op.WF (ch : Nat) : Op K → Prop
  | .next f => f.length = ch
  | .nextSquared f => f.length = ch
  | _ => True

theorem histStep_length {ch : Nat} (lives : List (List K)) (op : Op K) (h : lives.length = ch) (hw : op.WF ch) :
    (histStep lives op).length = ch := by
  cases op <;> simp_all [histStep, pushFrame, Op.WF]

theorem hist_length {ch : Nat} (ops : List (Op K)) (hw : ∀ op ∈ ops, op.WF ch) :
    ∀ lives : List (List K), lives.length = ch → (ops.foldl histStep lives).length = ch := by
  induction ops with
  | nil => exact fun _ h => h
  | cons op ops ih =>
    intro lives h
    exact ih (fun o ho => hw o (List.mem_cons_of_mem _ ho)) _ (histStep_length lives op h (hw op (List.mem_cons_self)))

theorem Adaptor.next_eq {α : Type} [Arith α] (sqrt : α → α) (a : Adaptor α) (f : List α) (rest : List (List α))
    (h : a.src = f :: rest) :
    (a.next sqrt).2 = (a.rms.next sqrt f).2 ∧ (a.next sqrt).1.rms = (a.rms.next sqrt f).1 ∧
    (a.next sqrt).1.src = rest ∧ (a.next sqrt).1.pulls = a.pulls + 1 ∧ (a.next sqrt).1.ch = a.ch := by
  simp [Adaptor.next, Adaptor.pull, h]

/-- outputs of the detector fed the frames `fs` one by one -/
def Rms.feed {α : Type} [Arith α] (sqrt : α → α) : Rms α → List (List α) → Rms α × List (List α)
  | r, [] => (r, [])
  | r, f :: fs =>
    let (r', o) := r.next sqrt f
    let (r'', os) := Rms.feed sqrt r' fs
    (r'', o :: os)

/-- **through the signal adaptor**: `k` outputs of `signal.rms(ring)` over a source holding at least
    `k` frames are exactly the detector's outputs on the first `k` source frames, and exactly `k`
    frames were pulled from the source (one per output) -/
theorem Adaptor.take_eq_feed {α : Type} [Arith α] (sqrt : α → α) :
    ∀ (k : Nat) (a : Adaptor α), k ≤ a.src.length →
      (Adaptor.take sqrt k a).2 = (Rms.feed sqrt a.rms (a.src.take k)).2 ∧
      (Adaptor.take sqrt k a).1.rms = (Rms.feed sqrt a.rms (a.src.take k)).1 ∧
      (Adaptor.take sqrt k a).1.pulls = a.pulls + k ∧
      (Adaptor.take sqrt k a).1.src = a.src.drop k := by
  intro k
  induction k with
  | zero => intro a _; simp [Adaptor.take, Rms.feed]
  | succ k ih =>
    intro a hk
    match hsrc : a.src with
    | [] => simp [hsrc] at hk
    | f :: rest =>
      obtain ⟨h1, h2, h3, h4, _⟩ := Adaptor.next_eq sqrt a f rest hsrc
      obtain ⟨i1, i2, i3, i4⟩ := ih (a.next sqrt).1 (by rw [h3]; simpa [hsrc] using hk)
      simp only [Adaptor.take, Rms.feed, List.take_succ_cons, List.drop_succ_cons, i1, i2, i3, i4, h1, h2, h3, h4,
        true_and, and_true]
      omega

end Dasp.Rms
