import Dasp.Machine.FConv
import Mathlib.Algebra.Order.Floor.Ring
import Mathlib.Data.Rat.Floor
import Mathlib.Tactic.Linarith
/-!
# Truncation toward zero

`truncQ` (`Machine/FConv.lean`, the float → integer cast).  `Osc.ratTrunc` (`Model/Osc.lean`, exact `fmod` and `as i64`),
`Conv.truncRat` (`Model/Converter.lean`, the `i16` codec) and `Props.C19Int.trunc` (the integer envelope) are the same
function and unfold to it, so these lemmas apply to them as they stand.
-/
namespace Dasp

theorem truncQ_nonneg {x : ℚ} (h : 0 ≤ x) : truncQ x = ⌊x⌋ := if_pos h

theorem truncQ_neg {x : ℚ} (h : x < 0) : truncQ x = -⌊-x⌋ := if_neg (not_le.mpr h)

theorem truncQ_mono {x y : ℚ} (h : x ≤ y) : truncQ x ≤ truncQ y := by
  by_cases hx : 0 ≤ x
  · have hy : 0 ≤ y := le_trans hx h
    rw [truncQ_nonneg hx, truncQ_nonneg hy]; exact Int.floor_mono h
  · have hx' : x < 0 := not_le.mp hx
    rw [truncQ_neg hx']
    by_cases hy : 0 ≤ y
    · rw [truncQ_nonneg hy]
      have h1 : 0 ≤ ⌊-x⌋ := Int.floor_nonneg.mpr (by linarith)
      have h2 : 0 ≤ ⌊y⌋ := Int.floor_nonneg.mpr hy
      omega
    · have hy' : y < 0 := not_le.mp hy
      rw [truncQ_neg hy']
      have : ⌊-y⌋ ≤ ⌊-x⌋ := Int.floor_mono (by linarith)
      omega

theorem truncQ_int (z : ℤ) : truncQ (z : ℚ) = z := by
  by_cases h : 0 ≤ z
  · rw [truncQ_nonneg (by exact_mod_cast h)]; simp
  · have h' : z < 0 := by omega
    rw [truncQ_neg (by exact_mod_cast h')]
    have : -(z : ℚ) = ((-z : ℤ) : ℚ) := by push_cast; rfl
    rw [this, Int.floor_intCast]; omega

theorem le_truncQ {x : ℚ} {z : ℤ} (h : (z : ℚ) ≤ x) : z ≤ truncQ x := (truncQ_int z).symm.trans_le (truncQ_mono h)

theorem truncQ_le {x : ℚ} {z : ℤ} (h : x ≤ z) : truncQ x ≤ z := (truncQ_mono h).trans_eq (truncQ_int z)

theorem truncQ_lt {x : ℚ} {z : ℤ} (hz : 0 < z) (h : x < z) : truncQ x < z := by
  by_cases hx : 0 ≤ x
  · rw [truncQ_nonneg hx, Int.floor_lt]; exact h
  · rw [truncQ_neg (not_le.mp hx)]
    have : 0 ≤ ⌊-x⌋ := Int.floor_nonneg.mpr (by linarith)
    omega

theorem truncQ_near {z : ℚ} {a E : ℤ} (h : |z - a| ≤ E) : |truncQ z - a| ≤ E := by
  rw [abs_le] at h ⊢
  have l := le_truncQ (show ((a - E : ℤ) : ℚ) ≤ z by push_cast; linarith)
  have u := truncQ_le (show z ≤ ((a + E : ℤ) : ℚ) by push_cast; linarith)
  constructor <;> omega

end Dasp
