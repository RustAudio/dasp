import Dasp.Model.Bus
import Dasp.Lemmas.SrcQueue
/-! C13 (bus), over an arbitrary source `src : Nat → α`: the definitions in which `Props/C13.lean` states its theorems
(the invariant `Inv`, `Fresh`, the abstraction `absOf` to the cursor specification `Abs`, the frames `received` by
an output along a run) and the proofs behind them. Core Lean only.

* `frames_read` as an association list: `lookup` (`find?` on the key), `others`, and `others k l ++ [(k, v)]`
  (`remove` then `insert`: the `_put` lemmas); what these do to `cursor`.
* `Pre src s b` is `Inv` before the front of the backlog is trimmed, `b` the source position of that front;
  `shift L` trims it.
* `next_frame` is `adv` (fetch the frame, advance the own offset) followed by `shift 1` when nobody else is at
  the front (`nextFrame_eq`); `drop_output` is removal followed by `shift least` (`dropOutput_eq`). So the four
  code paths of `next_frame` and the two of `drop_output` share `adv_spec` and `shift_spec`.
* Refinement: every operation is the specification's step on `absOf` and keeps `Inv` and `Fresh` (`step_refines`),
  hence every run (`run_refines`); in the specification an output receives consecutive source frames from its
  cursor on (`Abs.received_run`), so it does in the model (`received_run`). -/
namespace Dasp.Bus

variable {α : Type}

/-- The backlog invariant. `len_le`, `buf_eq`: the backlog holds pulled frames only, namely the run of consecutive
    source frames ending at `pos`; `fr_le`: no output has consumed more than the backlog holds; `nodup`: keys are
    distinct; `minimal`: the backlog is empty or some live output still needs its front frame. -/
structure Inv (src : Nat → α) (s : St α) : Prop where
  len_le : s.buf.length ≤ s.pos
  buf_eq : s.buf = (List.range' (s.pos - s.buf.length) s.buf.length).map src
  fr_le : ∀ p ∈ s.reads, p.2 ≤ s.buf.length
  nodup : (s.reads.map (·.1)).Nodup
  minimal : s.buf = [] ∨ ∃ p ∈ s.reads, p.2 = 0

/-- every registered key is below `next_key` (so `send` hands out a key that is not in use) -/
def Fresh (s : St α) : Prop := ∀ p ∈ s.reads, p.1 < s.nextKey

theorem lookup_eq_find? (k : Nat) (l : List (Nat × Nat)) :
    lookup k l = (l.find? (·.1 == k)).map (·.2) := by
  induction l with
  | nil => rfl
  | cons p r ih =>
    rw [lookup, List.find?_cons]
    by_cases h : p.1 = k
    · rw [if_pos h, beq_iff_eq.mpr h]; rfl
    · rw [if_neg h, ih, beq_eq_false_iff_ne.mpr h]

theorem lookup_mem {k v : Nat} {l : List (Nat × Nat)} (h : lookup k l = some v) : (k, v) ∈ l := by
  rw [lookup_eq_find?] at h
  obtain ⟨p, hp, rfl⟩ := Option.map_eq_some_iff.mp h
  exact beq_iff_eq.mp (List.find?_some (p := fun q : Nat × Nat => q.1 == k) hp) ▸ List.mem_of_find?_eq_some hp

theorem lookup_eq_none_iff {k : Nat} {l : List (Nat × Nat)} : lookup k l = none ↔ k ∉ l.map (·.1) := by
  rw [lookup_eq_find?, Option.map_eq_none_iff, List.find?_eq_none]
  simp only [List.mem_map, beq_iff_eq, not_exists, not_and]

theorem lookup_of_mem_nodup {k v : Nat} {l : List (Nat × Nat)} (hn : (l.map (·.1)).Nodup) (hm : (k, v) ∈ l) : lookup k l = some v := by
  induction l with
  | nil => simp at hm
  | cons p r ih =>
    obtain ⟨a, b⟩ := p
    simp only [List.map_cons, List.nodup_cons] at hn
    rcases List.mem_cons.mp hm with e | hm'
    · cases e; simp [lookup]
    · have hne : a ≠ k := by
        intro e; subst e
        exact hn.1 (List.mem_map.mpr ⟨(a, v), hm', rfl⟩)
      simp [lookup, hne, ih hn.2 hm']

theorem lookup_map_sub {k' d : Nat} (l : List (Nat × Nat)) :
    lookup k' (l.map (fun p => (p.1, p.2 - d))) = (lookup k' l).map (· - d) := by
  rw [lookup_eq_find?, lookup_eq_find?, List.find?_map, Option.map_map, Option.map_map]; rfl

theorem keys_map_sub (d : Nat) (l : List (Nat × Nat)) :
    (l.map (fun p => (p.1, p.2 - d))).map (·.1) = l.map (·.1) := by
  rw [List.map_map]; rfl

theorem lookup_others (k k' : Nat) (l : List (Nat × Nat)) :
    lookup k' (others k l) = if k' = k then none else lookup k' l := by
  rw [lookup_eq_find?, lookup_eq_find?, others, List.find?_filter]
  by_cases h : k' = k
  · rw [if_pos h, List.find?_eq_none.mpr fun x _ => by simp [h]]; rfl
  · rw [if_neg h]; congr 2; funext a
    by_cases ha : a.1 = k' <;> simp [ha, h]

/-- `remove(&k)` followed by `insert(k, v)` -/
theorem lookup_put (k k' v : Nat) (l : List (Nat × Nat)) :
    lookup k' (others k l ++ [(k, v)]) = if k' = k then some v else lookup k' l := by
  rw [lookup_eq_find?, List.find?_append, Option.map_or, ← lookup_eq_find?, lookup_others]
  by_cases h : k' = k
  · simp [h]
  · simp [h, Ne.symm h]

theorem mem_others {k : Nat} {l : List (Nat × Nat)} {p : Nat × Nat} : p ∈ others k l ↔ p ∈ l ∧ p.1 ≠ k := by
  simp [others, List.mem_filter]

theorem mem_put {k v : Nat} {l : List (Nat × Nat)} {p : Nat × Nat} :
    p ∈ others k l ++ [(k, v)] ↔ (p ∈ l ∧ p.1 ≠ k) ∨ p = (k, v) := by
  simp [mem_others]

theorem keys_others (k : Nat) (l : List (Nat × Nat)) :
    ((others k l).map (·.1)) = (l.map (·.1)).filter (· != k) := by
  simp [others, List.filter_map]; rfl

theorem nodup_others {k : Nat} {l : List (Nat × Nat)} (h : (l.map (·.1)).Nodup) : ((others k l).map (·.1)).Nodup := by
  rw [keys_others]; exact h.sublist List.filter_sublist

theorem nodup_put {k : Nat} (v : Nat) {l : List (Nat × Nat)} (h : (l.map (·.1)).Nodup) :
    ((others k l ++ [(k, v)]).map (·.1)).Nodup := by
  rw [List.map_append, keys_others]
  refine List.nodup_append.mpr ⟨h.sublist List.filter_sublist, by simp, ?_⟩
  intro a ha b hb
  simp at ha hb
  omega

theorem keys_put {k v : Nat} {l : List (Nat × Nat)} (hk : k ∈ l.map (·.1)) :
    ∀ x ∈ (others k l ++ [(k, v)]).map (·.1), x ∈ l.map (·.1) := by
  intro x hx
  rw [List.map_append, keys_others] at hx
  rcases List.mem_append.mp hx with h | h
  · exact (List.mem_filter.mp h).1
  · simp at h; exact h ▸ hk

theorem cursor_eq_some {s : St α} {k c : Nat} :
    cursor s k = some c ↔ ∃ fr, lookup k s.reads = some fr ∧ c = base s + fr := by
  rw [cursor]
  cases lookup k s.reads <;> simp [eq_comm]

theorem cursor_none {s : St α} {k : Nat} (h : lookup k s.reads = none) : cursor s k = none := by
  rw [cursor, h, Option.map_none]

theorem cursor_some {s : St α} {k fr : Nat} (h : lookup k s.reads = some fr) : cursor s k = some (base s + fr) := by
  rw [cursor, h, Option.map_some]

/-- the cursors after `remove(&k)`, `insert(k, v)` while the backlog front stays where it is -/
theorem cursor_put {s s' : St α} {k v : Nat} (hb : base s' = base s) (hr : s'.reads = others k s.reads ++ [(k, v)])
    (k' : Nat) : cursor s' k' = if k' = k then some (base s + v) else cursor s k' := by
  rw [cursor, hb, hr, lookup_put]; split <;> rfl

theorem cursor_others (s : St α) (k k' : Nat) :
    cursor { s with reads := others k s.reads } k' = if k' = k then none else cursor s k' := by
  rw [cursor, lookup_others]; split <;> rfl

theorem leastRead_le_len (n : Nat) (l : List (Nat × Nat)) : leastRead n l ≤ n := by
  induction l generalizing n with
  | nil => exact Nat.le_refl _
  | cons q r ih => exact Nat.le_trans (ih _) (Nat.min_le_left _ _)

theorem leastRead_le_mem (n : Nat) {l : List (Nat × Nat)} {p : Nat × Nat} (h : p ∈ l) : leastRead n l ≤ p.2 := by
  induction l generalizing n with
  | nil => cases h
  | cons q r ih =>
    rcases List.mem_cons.mp h with rfl | h'
    · exact Nat.le_trans (leastRead_le_len _ r) (Nat.min_le_right _ _)
    · exact ih _ h'

theorem leastRead_attained (n : Nat) (l : List (Nat × Nat)) : leastRead n l = n ∨ ∃ p ∈ l, p.2 = leastRead n l := by
  induction l generalizing n with
  | nil => exact Or.inl rfl
  | cons q r ih =>
    rcases ih (min n q.2) with h | ⟨p, hp, e⟩
    · rcases Nat.le_total n q.2 with hq | hq
      · exact Or.inl (h.trans (Nat.min_eq_left hq))
      · exact Or.inr ⟨q, List.mem_cons_self, (h.trans (Nat.min_eq_right hq)).symm⟩
    · exact Or.inr ⟨p, List.mem_cons_of_mem _ hp, e⟩

/-- what `next_frame` and `drop_output` keep before they trim the backlog: `Inv` without `minimal`, with the
    source position `b` of the oldest backlog frame named, so that no step computes with `pos - length` -/
structure Pre (src : Nat → α) (s : St α) (b : Nat) : Prop where
  pos_eq : s.pos = b + s.buf.length
  buf_eq : s.buf = (List.range' b s.buf.length).map src
  fr_le : ∀ p ∈ s.reads, p.2 ≤ s.buf.length
  nodup : (s.reads.map (·.1)).Nodup

theorem Inv.pre {src : Nat → α} {s : St α} (hi : Inv src s) : Pre src s (base s) :=
  ⟨(Nat.sub_add_cancel hi.len_le).symm, hi.buf_eq, hi.fr_le, hi.nodup⟩

theorem Pre.base_eq {src : Nat → α} {s : St α} {b : Nat} (hp : Pre src s b) : base s = b := by
  rw [base, hp.pos_eq, Nat.add_sub_cancel]

theorem Pre.inv {src : Nat → α} {s : St α} {b : Nat} (hp : Pre src s b)
    (hm : s.buf = [] ∨ ∃ p ∈ s.reads, p.2 = 0) : Inv src s :=
  ⟨hp.pos_eq ▸ Nat.le_add_left _ _, (hp.base_eq ▸ hp.buf_eq : s.buf = (List.range' (base s) _).map src),
    hp.fr_le, hp.nodup, hm⟩

/-- drop the `L` oldest backlog frames and rebase every read offset (bus.rs:201-206 with `L = 1`,
    bus.rs:230-236 with `L = least`) -/
def shift (L : Nat) (s : St α) : St α :=
  { s with reads := s.reads.map (fun p => (p.1, p.2 - L)), buf := s.buf.drop L }

theorem shift_spec {src : Nat → α} {s : St α} {b L : Nat} (hp : Pre src s b) (hL : ∀ p ∈ s.reads, L ≤ p.2)
    (hatt : L = s.buf.length ∨ ∃ p ∈ s.reads, p.2 = L) :
    Inv src (shift L s) ∧ ∀ k, cursor (shift L s) k = cursor s k := by
  have hLlen : L ≤ s.buf.length := by
    rcases hatt with h | ⟨p, hp', e⟩
    · exact Nat.le_of_eq h
    · exact e ▸ hp.fr_le p hp'
  have hp' : Pre src (shift L s) (b + L) := by
    refine ⟨?_, ?_, fun p hpm => ?_, ?_⟩ <;> simp only [shift, List.length_drop]
    · rw [hp.pos_eq]; omega
    · conv => lhs; rw [hp.buf_eq, SrcQueue.run_drop]
    · obtain ⟨q, hq, rfl⟩ := List.mem_map.mp hpm
      exact Nat.sub_le_sub_right (hp.fr_le q hq) L
    · rw [keys_map_sub]; exact hp.nodup
  refine ⟨hp'.inv ?_, fun k => ?_⟩
  · rcases hatt with h | ⟨p, hpm, e⟩
    · left; simp [shift, h]
    · right; exact ⟨(p.1, p.2 - L), List.mem_map.mpr ⟨p, hpm, rfl⟩, by simp only; omega⟩
  · rw [cursor, cursor, hp'.base_eq, hp.base_eq]
    simp only [shift, lookup_map_sub]
    cases hl : lookup k s.reads with
    | none => rfl
    | some v =>
      have := hL _ (lookup_mem hl)
      simp only [Option.map_some]; congr 1; omega

/-- bus.rs:181-190, 207-209: output `key` (at read offset `fr`) takes its frame from the backlog, or pulls
    the source and appends; its offset becomes `fr + 1` -/
def adv (src : Nat → α) (s : St α) (key fr : Nat) : St α :=
  { s with pos := if fr < s.buf.length then s.pos else s.pos + 1,
           buf := if fr < s.buf.length then s.buf else s.buf ++ [src s.pos],
           reads := others key s.reads ++ [(key, fr + 1)] }

theorem nextFrame_eq (src : Nat → α) (s : St α) {key fr : Nat} (hk : lookup key s.reads = some fr) :
    nextFrame src s key =
      some (if fr < s.buf.length then s.buf.getD fr (src s.pos) else src s.pos,
            if (others key s.reads).any (fun p => p.2 ≤ fr) then adv src s key fr
            else shift 1 (adv src s key fr)) := by
  unfold nextFrame
  rw [hk]
  cases h : (others key s.reads).any (fun p => decide (p.2 ≤ fr)) <;>
    simp [h, adv, shift, List.drop_one]

theorem adv_spec {src : Nat → α} {s : St α} {key fr b : Nat} (hp : Pre src s b) (hk : lookup key s.reads = some fr) :
    (if fr < s.buf.length then s.buf.getD fr (src s.pos) else src s.pos) = src (b + fr) ∧
    Pre src (adv src s key fr) b ∧ (adv src s key fr).pos = max s.pos (b + fr + 1) := by
  have hfrle : fr ≤ s.buf.length := hp.fr_le _ (lookup_mem hk)
  have hreads : ∀ n, fr + 1 ≤ n → s.buf.length ≤ n → ∀ p ∈ others key s.reads ++ [(key, fr + 1)], p.2 ≤ n := by
    intro n h1 h2 p hpm
    rcases mem_put.mp hpm with ⟨h, _⟩ | rfl
    · exact Nat.le_trans (hp.fr_le p h) h2
    · exact h1
  have hpos := hp.pos_eq
  by_cases hlt : fr < s.buf.length
  · simp only [adv, if_pos hlt]
    refine ⟨?_, ⟨hpos, hp.buf_eq, hreads _ hlt (Nat.le_refl _), nodup_put _ hp.nodup⟩, by omega⟩
    rw [hp.buf_eq]; exact SrcQueue.run_getD src b _ fr _ hlt
  · have hfeq : fr = s.buf.length := by omega
    simp only [adv, if_neg hlt]
    refine ⟨by rw [hpos, hfeq], ⟨?_, ?_, ?_, nodup_put _ hp.nodup⟩, by omega⟩ <;>
      simp only [List.length_append, List.length_singleton]
    · omega
    · rw [← SrcQueue.run_snoc, ← hp.buf_eq, hpos]
    · exact hreads _ (by omega) (by omega)

/-- both arms of bus.rs:230 are the shift by `least` (a shift by 0 changes nothing) -/
theorem dropOutput_eq (s : St α) {key fr : Nat} (hk : lookup key s.reads = some fr) :
    dropOutput s key =
      some (shift (leastRead s.buf.length (others key s.reads)) { s with reads := others key s.reads }) := by
  unfold dropOutput; rw [hk]
  simp only [shift]
  split
  · rfl
  · rename_i h
    have h0 : leastRead s.buf.length (others key s.reads) = 0 := by omega
    simp [h0]

theorem inv_init (src : Nat → α) : Inv src (init : St α) :=
  ⟨Nat.le_refl _, rfl, fun _ h => absurd h List.not_mem_nil, List.nodup_nil, Or.inl rfl⟩

theorem fresh_init : Fresh (init : St α) := fun _ h => absurd h List.not_mem_nil

theorem Inv.dropBus {src : Nat → α} {s : St α} (hi : Inv src s) : Inv src (dropBus s) := ⟨hi.len_le, hi.buf_eq, hi.fr_le, hi.nodup, hi.minimal⟩

theorem cursor_send {src : Nat → α} {s : St α} (hi : Inv src s) (k' : Nat) :
    cursor (send s).2 k' = if k' = s.nextKey then some s.pos else cursor s k' := by
  rw [cursor_put (s := s) (s' := (send s).2) rfl rfl, ← hi.pre.pos_eq]

theorem Inv.send {src : Nat → α} {s : St α} (hi : Inv src s) (hk : lookup s.nextKey s.reads = none) :
    Inv src (send s).2 := by
  refine ⟨hi.len_le, hi.buf_eq, fun p hp => ?_, nodup_put _ hi.nodup, ?_⟩
  · rcases mem_put.mp hp with ⟨h, _⟩ | rfl
    · exact hi.fr_le p h
    · exact Nat.le_refl _
  · rcases hi.minimal with h | ⟨p, hp, hp0⟩
    · exact Or.inl h
    · refine Or.inr ⟨p, mem_put.mpr (Or.inl ⟨hp, fun e => ?_⟩), hp0⟩
      exact lookup_eq_none_iff.mp hk (List.mem_map.mpr ⟨p, hp, e⟩)

theorem nextFrame_spec (src : Nat → α) (s : St α) (key fr : Nat) (hi : Inv src s) (hk : lookup key s.reads = some fr) :
    ∃ frame s', nextFrame src s key = some (frame, s') ∧
      frame = src (base s + fr) ∧
      cursor s' key = some (base s + fr + 1) ∧
      (∀ k', k' ≠ key → cursor s' k' = cursor s k') ∧
      s'.pos = max s.pos (base s + fr + 1) ∧
      s'.nextKey = s.nextKey ∧ s'.handle = s.handle ∧
      (∀ x ∈ s'.reads.map (·.1), x ∈ s.reads.map (·.1)) ∧
      Inv src s' := by
  obtain ⟨hframe, hpre, hpos⟩ := adv_spec hi.pre hk
  have hcur : ∀ k', cursor (adv src s key fr) k' = if k' = key then some (base s + fr + 1) else cursor s k' :=
    cursor_put hpre.base_eq rfl
  have hkeys := keys_put (v := fr + 1) (List.mem_map.mpr ⟨_, lookup_mem hk, rfl⟩)
  have hfrle : fr ≤ s.buf.length := hi.fr_le _ (lookup_mem hk)
  -- a reader at offset 0: this output itself, or one of the others
  have hzero : fr = 0 ∨ ∃ p ∈ others key s.reads, p.2 = 0 := by
    rcases hi.minimal with h | ⟨p, hp, hp0⟩
    · rw [h] at hfrle; exact Or.inl (Nat.le_zero.mp hfrle)
    · by_cases hpk : p.1 = key
      · have := lookup_of_mem_nodup hi.nodup (show (key, p.2) ∈ s.reads by rw [← hpk]; exact hp)
        rw [hk] at this; injection this with e
        exact Or.inl (e.trans hp0)
      · exact Or.inr ⟨p, mem_others.mpr ⟨hp, hpk⟩, hp0⟩
  refine ⟨_, _, nextFrame_eq src s hk, hframe, ?_⟩
  by_cases hleast : (others key s.reads).any (fun p => decide (p.2 ≤ fr)) = true
  · -- somebody else is at or behind this output's old offset: the front stays
    rw [if_pos hleast]
    obtain ⟨q, hq, hq2⟩ := List.any_eq_true.mp hleast
    have hq2 : q.2 ≤ fr := of_decide_eq_true hq2
    refine ⟨by rw [hcur, if_pos rfl], fun k' h => by rw [hcur, if_neg h], hpos, rfl, rfl, hkeys,
      hpre.inv (Or.inr ?_)⟩
    rcases hzero with h | ⟨p, hp, hp0⟩
    · exact ⟨q, List.mem_append_left _ hq, by omega⟩
    · exact ⟨p, List.mem_append_left _ hp, hp0⟩
  · -- everybody else is ahead, so this output was the reader at the front (`fr = 0`): after `adv` the
    -- least offset is 1 and the front frame goes
    rw [if_neg hleast]
    have hahead : ∀ p ∈ others key s.reads, fr < p.2 := fun p hp =>
      Nat.lt_of_not_le fun hc => hleast (List.any_eq_true.mpr ⟨p, hp, decide_eq_true hc⟩)
    have hfr0 : fr = 0 := by
      rcases hzero with h | ⟨p, hp, hp0⟩
      · exact h
      · have := hahead p hp; omega
    obtain ⟨hinv, hsh⟩ := shift_spec (L := 1) hpre
      (fun p hp => by
        rcases mem_put.mp hp with ⟨h, hne⟩ | rfl
        · have := hahead p (mem_others.mpr ⟨h, hne⟩); omega
        · exact Nat.le_add_left 1 fr)
      (Or.inr ⟨(key, fr + 1), by simp [adv], by simp [hfr0]⟩)
    refine ⟨by rw [hsh, hcur, if_pos rfl], fun k' h => by rw [hsh, hcur, if_neg h], hpos, rfl, rfl, ?_, hinv⟩
    simp only [shift, keys_map_sub]; exact hkeys

theorem dropOutput_spec (src : Nat → α) (s : St α) (key fr : Nat) (hi : Inv src s) (hk : lookup key s.reads = some fr) :
    ∃ s', dropOutput s key = some s' ∧
      (∀ k', cursor s' k' = if k' = key then none else cursor s k') ∧
      s'.pos = s.pos ∧ s'.nextKey = s.nextKey ∧ s'.handle = s.handle ∧
      (∀ x ∈ s'.reads.map (·.1), x ∈ s.reads.map (·.1)) ∧
      Inv src s' := by
  have hpre : Pre src { s with reads := others key s.reads } (base s) :=
    ⟨hi.pre.pos_eq, hi.buf_eq, fun p hp => hi.fr_le p (mem_others.mp hp).1, nodup_others hi.nodup⟩
  obtain ⟨hinv, hsh⟩ := shift_spec (L := leastRead s.buf.length (others key s.reads)) hpre
    (fun p hp => leastRead_le_mem _ hp) (leastRead_attained _ _)
  refine ⟨_, dropOutput_eq s hk, fun k' => by rw [hsh, cursor_others], rfl, rfl, rfl, fun x hx => ?_, hinv⟩
  simp only [shift, keys_map_sub, keys_others] at hx
  exact (List.mem_filter.mp hx).1

theorem cursor_bounds {src : Nat → α} {s : St α} (hi : Inv src s) {k c : Nat} (h : cursor s k = some c) :
    base s ≤ c ∧ c ≤ s.pos := by
  obtain ⟨fr, hl, rfl⟩ := cursor_eq_some.mp h
  have := hi.fr_le _ (lookup_mem hl); have := hi.pre.pos_eq
  omega

theorem base_eq_pos_or_attained {src : Nat → α} {s : St α} (hi : Inv src s) :
    base s = s.pos ∨ ∃ k, cursor s k = some (base s) := by
  rcases hi.minimal with h | ⟨p, hp, hp0⟩
  · left; simp only [base, h, List.length_nil, Nat.sub_zero]
  · right; exact ⟨p.1, by rw [cursor_some (lookup_of_mem_nodup hi.nodup hp), hp0]; rfl⟩

theorem absent_of_fresh {s : St α} (hf : Fresh s) : lookup s.nextKey s.reads = none := by
  rw [lookup_eq_none_iff]
  intro hm
  obtain ⟨p, hp, e⟩ := List.mem_map.mp hm
  have := hf p hp
  omega

theorem runX_map_op (src : Nat → α) (srcDone : Nat → Bool) (fuel : Nat) (ops : List Op) (s : St α) :
    runX src srcDone fuel s (ops.map .op) = (run src s ops).map (List.map fun r => (.ret r.1, r.2)) := by
  induction ops generalizing s with
  | nil => rfl
  | cons o ops ih =>
    simp only [List.map_cons, runX, stepX, run]
    cases step src s o with
    | none => rfl
    | some rs => simp only [Option.map_some, ih]; cases run src rs.2 ops <;> rfl

theorem runX_ops {α : Type} (src : Nat → α) (srcDone : Nat → Bool) (fuel : Nat) (ops : List Op) (s : St α) :
    (runX src srcDone fuel s (ops.map .op)).map (List.map fun r => r.2) = (run src s ops).map (List.map fun r => r.2) := by
  rw [runX_map_op, Option.map_map]; congr 1; funext tr; exact List.map_map

/-- the state of the cursor specification that a model state stands for -/
def absOf (s : St α) : Abs := ⟨s.pos, cursor s, s.nextKey, s.handle⟩

theorem fresh_of_keys_sub {s s' : St α} (hf : Fresh s) (hn : s.nextKey ≤ s'.nextKey)
    (hsub : ∀ x ∈ s'.reads.map (·.1), x ∈ s.reads.map (·.1)) : Fresh s' := by
  intro p hp
  obtain ⟨q, hq, e⟩ := List.mem_map.mp (hsub p.1 (List.mem_map.mpr ⟨p, hp, rfl⟩))
  have := hf q hq
  omega

theorem step_refines (src : Nat → α) (s : St α) (op : Op) (hi : Inv src s) (hf : Fresh s)
    (hn : s.nextKey + 1 < usizeMod) :
    (step src s op).map (fun r => (r.1, absOf r.2)) = Abs.step src (absOf s) op ∧
    ∀ r s', step src s op = some (r, s') → Inv src s' ∧ Fresh s' ∧ s'.nextKey ≤ s.nextKey + 1 := by
  cases op with
  | send =>
    cases hh : s.handle with
    | false => exact ⟨by simp [step, hh, Abs.step, absOf], fun r s' hst => by simp [step, hh] at hst⟩
    | true =>
      refine ⟨?_, fun r s' hst => ?_⟩
      · simp only [step, Abs.step, absOf, hh, if_true, Option.map_some, funext (cursor_send hi)]
        simp only [send, hh]
      · simp only [step, hh, if_true] at hst
        cases hst
        have hnk : (send s).2.nextKey = s.nextKey + 1 := Nat.mod_eq_of_lt hn
        refine ⟨hi.send (absent_of_fresh hf), fun p hp => ?_, Nat.le_of_eq hnk⟩
        rw [hnk]
        rcases mem_put.mp hp with ⟨h, _⟩ | rfl
        · exact Nat.lt_succ_of_lt (hf p h)
        · exact Nat.lt_succ_self _
  | dropBus =>
    cases hh : s.handle with
    | false => exact ⟨by simp [step, hh, Abs.step, absOf], fun r s' hst => by simp [step, hh] at hst⟩
    | true =>
      refine ⟨by simp only [step, hh, if_true, Option.map_some, Abs.step, absOf, dropBus]; rfl, fun r s' hst => ?_⟩
      simp only [step, hh, if_true] at hst
      cases hst
      exact ⟨hi.dropBus, hf, Nat.le_succ _⟩
  | next k =>
    cases hl : lookup k s.reads with
    | none =>
      have h1 : nextFrame src s k = none := by unfold nextFrame; rw [hl]
      exact ⟨by simp [step, h1, Abs.step, absOf, cursor_none hl], fun r s' hst => by simp [step, h1] at hst⟩
    | some fr =>
      obtain ⟨frame, s1, e, hframe, hc, hoth, hpos, hnk, hhd, hsub, hinv⟩ := nextFrame_spec src s k fr hi hl
      have hcur : cursor s1 = fun k' => if k' = k then some (base s + fr + 1) else cursor s k' := by
        funext k'
        by_cases h : k' = k
        · rw [if_pos h, h, hc]
        · rw [if_neg h, hoth k' h]
      refine ⟨?_, fun r s' hst => ?_⟩
      · simp only [step, Abs.step, absOf, e, Option.map_some, hcur, hpos, hnk, hhd, hframe, cursor_some hl]
      · simp only [step, e, Option.map_some] at hst
        cases hst
        exact ⟨hinv, fresh_of_keys_sub hf (by omega) hsub, by omega⟩
  | drop k =>
    cases hl : lookup k s.reads with
    | none =>
      have h1 : dropOutput s k = none := by unfold dropOutput; rw [hl]
      exact ⟨by simp [step, h1, Abs.step, absOf, cursor_none hl], fun r s' hst => by simp [step, h1] at hst⟩
    | some fr =>
      obtain ⟨s1, e, hcur, hpos, hnk, hhd, hsub, hinv⟩ := dropOutput_spec src s k fr hi hl
      refine ⟨?_, fun r s' hst => ?_⟩
      · simp only [step, Abs.step, absOf, e, Option.map_some, funext hcur, hpos, hnk, hhd, cursor_some hl]
      · simp only [step, e, Option.map_some] at hst
        cases hst
        exact ⟨hinv, fresh_of_keys_sub hf (by omega) hsub, by omega⟩

theorem run_refines (src : Nat → α) (ops : List Op) : ∀ (s : St α), Inv src s → Fresh s →
    s.nextKey + ops.length < usizeMod →
    (run src s ops).map (List.map fun r => (r.1, absOf r.2)) = Abs.run src (absOf s) ops ∧
    ∀ tr, run src s ops = some tr → ∀ r ∈ tr, Inv src r.2 := by
  induction ops with
  | nil => intro s _ _ _; simp [run, Abs.run]
  | cons op ops ih =>
    intro s hi hf hn
    simp only [List.length_cons] at hn
    obtain ⟨h1, h2⟩ := step_refines src s op hi hf (by omega)
    cases hst : step src s op with
    | none =>
      rw [hst] at h1
      simp [run, Abs.run, hst, ← h1]
    | some rs =>
      obtain ⟨r, s'⟩ := rs
      rw [hst] at h1
      simp only [Option.map] at h1
      obtain ⟨hi', hf', hn'⟩ := h2 r s' hst
      obtain ⟨ih1, ih2⟩ := ih s' hi' hf' (by omega)
      simp only [run, Abs.run, hst, ← h1, ← ih1]
      cases hr : run src s' ops with
      | none => simp
      | some rest =>
        refine ⟨by simp, ?_⟩
        intro tr htr q hq
        simp only [Option.some.injEq] at htr
        subst htr
        rcases List.mem_cons.mp hq with e | hq'
        · subst e; exact hi'
        · exact ih2 rest hr q hq'

/-- the frames returned by the `next k` operations of a run (`tr` = the run's result list) -/
def received {β : Type} (k : Nat) : List Op → List (Ret α × β) → List α
  | [], _ => []
  | _ :: _, [] => []
  | op :: ops, (r, _) :: tr =>
    match op, r with
    | .next k', .frame f => if k' = k then f :: received k ops tr else received k ops tr
    | _, _ => received k ops tr

theorem received_map {β γ : Type} (g : β → γ) (k : Nat) (ops : List Op) (tr : List (Ret α × β)) :
    received k ops (tr.map fun r => (r.1, g r.2)) = received k ops tr := by
  induction ops generalizing tr with
  | nil => simp [received]
  | cons op ops ih =>
    cases tr with
    | nil => simp [received]
    | cons r tr =>
      obtain ⟨r1, r2⟩ := r
      simp only [List.map_cons, received]
      cases op <;> cases r1 <;> simp [ih]

theorem received_cons_of_ne {β : Type} {k : Nat} {op : Op} (h : op ≠ .next k) (ops : List Op) (r : Ret α × β)
    (tr : List (Ret α × β)) : received k (op :: ops) (r :: tr) = received k ops tr := by
  obtain ⟨r1, r2⟩ := r
  cases op <;> cases r1 <;> simp only [received]
  exact if_neg fun e => h (congrArg Op.next e)

/-- an operation other than `next k` and `drop k` leaves the cursor of output `k` alone: a `send` hands out
    `nextKey`, which is above every key issued so far -/
theorem Abs.step_other {src : Nat → α} {a a' : Abs} {op : Op} {r : Ret α} {k : Nat}
    (h : Abs.step src a op = some (r, a')) (hk : k < a.nextKey) (hn : a.nextKey + 1 < usizeMod)
    (h1 : op ≠ .next k) (h2 : op ≠ .drop k) :
    a'.cur k = a.cur k ∧ a.nextKey ≤ a'.nextKey ∧ a'.nextKey ≤ a.nextKey + 1 := by
  cases op with
  | send =>
    simp only [Abs.step] at h
    split at h
    · cases h
      exact ⟨if_neg (Nat.ne_of_lt hk), by simp only [Nat.mod_eq_of_lt hn]; omega, by simp only [Nat.mod_eq_of_lt hn]; omega⟩
    · cases h
  | dropBus =>
    simp only [Abs.step] at h
    split at h
    · cases h; exact ⟨rfl, Nat.le_refl _, Nat.le_succ _⟩
    · cases h
  | next k' =>
    simp only [Abs.step] at h
    split at h
    · cases h
    · cases h; exact ⟨if_neg fun e => h1 (congrArg Op.next e.symm), Nat.le_refl _, Nat.le_succ _⟩
  | drop k' =>
    simp only [Abs.step] at h
    split at h
    · cases h
    · cases h; exact ⟨if_neg fun e => h2 (congrArg Op.drop e.symm), Nat.le_refl _, Nat.le_succ _⟩

/-- in the cursor specification: an output with cursor `c` receives `src c, src (c+1), …`, one per
    `next`; an output that is not live (and whose key cannot be issued again) receives nothing -/
theorem Abs.received_run (src : Nat → α) (k : Nat) (ops : List Op) :
    ∀ (a : Abs) (tr : List (Ret α × Abs)), Abs.run src a ops = some tr → k < a.nextKey →
      a.nextKey + ops.length < usizeMod →
      (∀ c, a.cur k = some c → received k ops tr = (List.range' c (ops.count (.next k))).map src) ∧
      (a.cur k = none → received k ops tr = [] ∧ ops.count (.next k) = 0) := by
  induction ops with
  | nil => intro a tr h _ _; simp [Abs.run] at h; subst h; simp [received]
  | cons op ops ih =>
    intro a tr h hk hn
    simp only [List.length_cons] at hn
    simp only [Abs.run] at h
    cases hst : Abs.step src a op with
    | none => simp [hst] at h
    | some ra =>
      obtain ⟨r, a'⟩ := ra
      simp only [hst] at h
      cases hr : Abs.run src a' ops with
      | none => simp [hr] at h
      | some rest =>
        simp only [hr, Option.some.injEq] at h
        subst h
        by_cases h1 : op = .next k
        · subst h1
          simp only [Abs.step] at hst
          cases hc' : a.cur k with
          | none => simp [hc'] at hst
          | some c' =>
            simp only [hc', Option.some.injEq, Prod.mk.injEq] at hst
            obtain ⟨rfl, rfl⟩ := hst
            obtain ⟨i1, -⟩ := ih _ rest hr hk (by simp only; omega)
            simp only [received, if_true, List.count_cons_self]
            refine ⟨fun c hc => ?_, fun hc => nomatch hc⟩
            cases hc
            rw [i1 (c' + 1) (if_pos rfl), List.range'_succ]; rfl
        · rw [received_cons_of_ne h1, List.count_cons_of_ne h1]
          by_cases h2 : op = .drop k
          · subst h2
            simp only [Abs.step] at hst
            cases hc' : a.cur k with
            | none => simp [hc'] at hst
            | some c' =>
              simp only [hc', Option.some.injEq, Prod.mk.injEq] at hst
              obtain ⟨rfl, rfl⟩ := hst
              obtain ⟨j1, j2⟩ := (ih _ rest hr hk (by simp only; omega)).2 (if_pos rfl)
              exact ⟨fun c _ => by rw [j1, j2]; rfl, fun hc => nomatch hc⟩
          · obtain ⟨hc, hlo, hhi⟩ := Abs.step_other hst hk (by omega) h1 h2
            rw [← hc]
            exact ih a' rest hr (by omega) (by omega)

/-- along any executable run from a state satisfying the invariant, a live output with cursor `c` receives
    `src c, src (c+1), …`, one per `next`, however its calls interleave with the other operations -/
theorem received_run (src : Nat → α) (s : St α) (hi : Inv src s) (hf : Fresh s) (ops : List Op)
    (hn : s.nextKey + ops.length < usizeMod) (tr : List (Ret α × St α)) (h : run src s ops = some tr)
    (k c : Nat) (hc : cursor s k = some c) :
    received k ops tr = (List.range' c (ops.count (.next k))).map src := by
  obtain ⟨fr, hl, _⟩ := cursor_eq_some.mp hc
  have href := (run_refines src ops s hi hf hn).1
  rw [h] at href
  cases hra : Abs.run src (absOf s) ops with
  | none => rw [hra] at href; simp at href
  | some atr =>
    rw [hra] at href
    simp only [Option.map_some, Option.some.injEq] at href
    have := (Abs.received_run src k ops (absOf s) atr hra (hf _ (lookup_mem hl)) hn).1 c hc
    rwa [← href, received_map] at this

end Dasp.Bus
