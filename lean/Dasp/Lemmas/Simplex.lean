import Mathlib.Tactic.Linarith
import Mathlib.Tactic.Ring
import Mathlib.Tactic.Positivity
import Mathlib.Tactic.NormNum
import Mathlib.Algebra.Order.AbsoluteValue.Basic

/-! Exact-arithmetic amplitude bound for `simplex_noise_1d` (dasp_signal/src/lib.rs:2023-2082). -/
namespace Dasp.Simplex

/-- contribution profile of one corner at distance x: (1 - x²)⁴ · x -/
def f (x : ℚ) : ℚ := x * (1 - x ^ 2) ^ 4

/-- `h(u) = 27/16 − 23/8·u + 7u² − 9u³ ≥ 27/16 − 23/32 − 9/64 > 0` on `[0, 1/4]` -/
theorem h_nonneg {u : ℚ} (h0 : 0 ≤ u) (h1 : u ≤ 1/4) : 0 ≤ 27/16 - (23/8) * u + 7 * u^2 - 9 * u^3 := by
  have h3 : u^3 ≤ (1/4)^3 := pow_le_pow_left₀ h0 h1 3
  linarith [pow_nonneg h0 2]

/-- the two corner profiles never add up to more than 81/256 on [0,1]: the sum is symmetric about `x = 1/2`, and in
    `u = (x − 1/2)²` the deficit is `u·h(u)` -/
theorem f_sum_le (x : ℚ) (h0 : 0 ≤ x) (h1 : x ≤ 1) : f x + f (1 - x) ≤ 81/256 := by
  obtain ⟨u, hu⟩ : ∃ u, u = (x - 1/2) ^ 2 := ⟨_, rfl⟩
  have e : f x + f (1 - x) = 81/256 - u * (27/16 - (23/8) * u + 7 * u^2 - 9 * u^3) := by
    rw [hu]; unfold f; ring
  have hu0 : 0 ≤ u := hu ▸ sq_nonneg _
  have hu1 : u ≤ 1/4 := by linarith [mul_nonneg h0 (sub_nonneg.mpr h1)]
  exact e ▸ sub_le_self _ (mul_nonneg hu0 (h_nonneg hu0 hu1))

/-- |g0·f-part + g1·f-part| with |g| ≤ 8: the noise before scaling is at most 2.53125, so 0.395× it is < 1 -/
theorem simplex_bound (x0 g0 g1 : ℚ) (h0 : 0 ≤ x0) (h1 : x0 < 1) (hg0 : |g0| ≤ 8) (hg1 : |g1| ≤ 8) :
    |(395/1000) * ((1 - x0^2)^4 * (g0 * x0) + (1 - (x0 - 1)^2)^4 * (g1 * (x0 - 1)))| ≤ 99984375/100000000 := by
  have hf := f_sum_le x0 h0 h1.le
  have e : (1 - x0^2)^4 * (g0 * x0) + (1 - (x0 - 1)^2)^4 * (g1 * (x0 - 1)) = g0 * f x0 - g1 * f (1 - x0) := by
    unfold f; ring
  have hfx : 0 ≤ f x0 := mul_nonneg h0 (by positivity)
  have hfy : 0 ≤ f (1 - x0) := mul_nonneg (by linarith) (by positivity)
  have tri := abs_sub (g0 * f x0) (g1 * f (1 - x0))
  rw [abs_mul, abs_mul, abs_of_nonneg hfx, abs_of_nonneg hfy] at tri
  rw [e, abs_mul, abs_of_nonneg (by norm_num : (0:ℚ) ≤ 395/1000)]
  linarith [mul_le_mul_of_nonneg_right hg0 hfx, mul_le_mul_of_nonneg_right hg1 hfy]

end Dasp.Simplex
