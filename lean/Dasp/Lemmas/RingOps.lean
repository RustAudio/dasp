import Dasp.Lemmas.Ring
/-!
# What each operation of `Bounded` / `Fixed` does to the abstraction

`Holds cap b q` — "`b` is a valid buffer of capacity `cap` whose live elements, oldest first, are
`q`" — is the refinement relation of C06: validity, capacity and content always travel together, so
every operation gets one lemma `Holds.<op>` that maps `Holds` to `Holds` and says what the call
returns; clients that match on `b.pop` rewrite with `Holds.pop_eq`.  `HoldsF n f (l, p)` is the same
for `Fixed`; the slot `p = first` stands beside the content because the ideal delay line (`dStep`)
carries it.  Two definitions of that specification are here beside the lemma that uses them: `rotl`
(`HoldsF.setFirst`) and `Fixed.pushAll` (`pushAll_spec`).  Clients that only push use the `Inv`-form
corollaries (`Fixed.push_inv`, `push_first`, `push_refines`, `push_cons`, `extend_abs`).
`Props/C06.lean` states the operations against the ideal queue / delay line; `Props/LinkFork.lean`
runs Fork and Buffered over `Holds`; Lemmas/Sinc.lean, Lemmas/Nodes.lean and `Props/LinkRms.lean`
read their rings as a `Fixed`.  Core Lean only.
-/
set_option linter.unusedSectionVars false

namespace Dasp.Props.C06
open Dasp.Ring

variable {α : Type} [Inhabited α]

/-- a step-by-step simulation (states related by `R`, observations equal after `φ`) lifts to every history that a `foldl`
    collects; both `run_refines` are instances -/
theorem foldl_sim {S A Op O : Type} {cs : S → Op → S × O} {as : A → Op → A × O} {R : S → A → Prop}
    {φ : O → O} (hstep : ∀ s a op, R s a → R (cs s op).1 (as a op).1 ∧ φ (cs s op).2 = (as a op).2)
    (ops : List Op) (s : S) (a : A) (o : List O) (h : R s a) :
    R (ops.foldl (fun acc op => ((cs acc.1 op).1, acc.2 ++ [(cs acc.1 op).2])) (s, o)).1
      (ops.foldl (fun acc op => ((as acc.1 op).1, acc.2 ++ [(as acc.1 op).2])) (a, o.map φ)).1 ∧
    (ops.foldl (fun acc op => ((cs acc.1 op).1, acc.2 ++ [(cs acc.1 op).2])) (s, o)).2.map φ =
      (ops.foldl (fun acc op => ((as acc.1 op).1, acc.2 ++ [(as acc.1 op).2])) (a, o.map φ)).2 := by
  induction ops generalizing s a o with
  | nil => exact ⟨h, rfl⟩
  | cons op ops ih =>
    obtain ⟨h1, h2⟩ := hstep s a op h
    have := ih _ _ (o ++ [(cs s op).2]) h1
    rwa [List.map_append, List.map_singleton, h2] at this

theorem abs_length (b : Bounded α) : b.abs.length = b.len := window_length _ _ _

/-- *"len, is_empty, is_full and max_len in agreement"* -/
theorem len_agrees (b : Bounded α) :
    b.length = b.abs.length ∧ b.isEmpty = (b.abs.length == 0) ∧
    b.isFull = (b.abs.length == b.maxLen) := by
  rw [abs_length]; exact ⟨rfl, rfl, rfl⟩

/-- *"index i … present[s] the live elements oldest-first"*; beyond the live elements `get`
    is `none`, i.e. no slot without a live element is exposed -/
theorem get_abs (b : Bounded α) (i : Nat) : b.get i = b.abs[i]? := by
  rw [Bounded.abs, window_getElem?, Bounded.get]
  by_cases h : i < b.len
  · rw [if_pos h, if_neg (Nat.not_le.mpr h)]; rfl
  · rw [if_neg h, if_pos (Nat.le_of_not_lt h)]

/-- `b` is a valid buffer of capacity `cap` whose live elements, oldest first, are `q` -/
structure Holds (cap : Nat) (b : Bounded α) (q : List α) : Prop where
  inv : b.Inv
  maxLen_eq : b.maxLen = cap
  abs_eq : b.abs = q

theorem Holds.of_inv {b : Bounded α} (h : b.Inv) : Holds b.maxLen b b.abs := ⟨h, rfl, rfl⟩

theorem Holds.intro {cap s n : Nat} {d q : List α} (hd : d.length = cap) (hs : s < cap) (hn : n ≤ cap)
    (ha : window d s n = q) : Holds cap ⟨d, s, n⟩ q := by
  subst hd; exact ⟨⟨hs, hn⟩, rfl, ha⟩

theorem Holds.length {cap : Nat} {b : Bounded α} {q : List α} (h : Holds cap b q) : b.length = q.length := by
  rw [← h.abs_eq]; exact (abs_length b).symm

/-- `b.nextStart` unfolds to `nextSlot b.maxLen b.start`; the window lemmas stated with `nextSlot` are applied to
    it through the same unfolding -/
theorem nextStart_lt {b : Bounded α} (h : b.start < b.maxLen) : b.nextStart < b.maxLen := nextSlot_lt h

/-- *"push appends and, only when full, evicts and returns the oldest element"* -/
theorem Holds.push {cap : Nat} {b : Bounded α} {q : List α} (h : Holds cap b q) (x : α) :
    Holds cap (b.push x).1 (if q.length = cap then q.tail ++ [x] else q ++ [x]) ∧
    (b.push x).2 = if q.length = cap then q.head? else none := by
  obtain ⟨⟨hs, hl⟩, rfl, rfl⟩ := h
  rw [abs_length, Bounded.push]
  by_cases hf : b.len = b.maxLen
  · rw [if_pos hf, if_pos hf, if_pos hf]
    refine ⟨Holds.intro (List.length_set ..) (nextStart_lt hs) hl ?_, (window_head? _ _ _ hs (by omega)).symm⟩
    show window _ _ b.len = (window b.data b.start b.len).tail ++ [x]
    rw [hf]
    exact window_rotate_push b.data b.start x hs
  · rw [if_neg hf, if_neg hf, if_neg hf]
    have hlt : b.len < b.maxLen := Nat.lt_of_le_of_ne hl hf
    exact ⟨Holds.intro (List.length_set ..) hs hlt (window_push b.data b.start b.len x hs hlt), rfl⟩

/-- *"pop removes the oldest"* (and returns it), wrap case included -/
theorem Holds.pop {cap : Nat} {b : Bounded α} {q : List α} (h : Holds cap b q) :
    Holds cap (b.pop).1 q.tail ∧ (b.pop).2 = q.head? := by
  obtain ⟨⟨hs, hl⟩, rfl, rfl⟩ := h
  rw [Bounded.pop, Bounded.abs]
  split
  · next h0 => rw [h0]; exact ⟨Holds.intro rfl hs hl (by rw [h0]; rfl), rfl⟩
  · obtain ⟨m, hm⟩ : ∃ m, b.len = m + 1 := ⟨b.len - 1, by omega⟩
    rw [hm, window_succ _ _ _ hs]
    exact ⟨Holds.intro rfl (nextStart_lt hs) (by omega) rfl, rfl⟩

/-- the same as an equation, for clients that match on `b.pop` -/
theorem Holds.pop_eq {cap : Nat} {b : Bounded α} {q : List α} (h : Holds cap b q) :
    b.pop = ((b.pop).1, q.head?) := Prod.ext rfl h.pop.2

/-- *"indexed … write"*: the reference returned by `get_mut(i)` is position `i` of the queue —
    writing through it changes that element and nothing else; out of range nothing is exposed -/
theorem Holds.getMutSet {cap : Nat} {b : Bounded α} {q : List α} (h : Holds cap b q) (i : Nat) (x : α) :
    Holds cap (b.getMutSet i x).1 (q.set i x) ∧ (b.getMutSet i x).2 = q[i]? := by
  have hg := get_abs b i
  obtain ⟨⟨hs, hl⟩, rfl, rfl⟩ := h
  rw [Bounded.get] at hg
  rw [Bounded.getMutSet]
  by_cases hi : i ≥ b.len
  · rw [if_pos hi] at hg ⊢
    rw [List.set_eq_of_length_le (by rw [abs_length]; exact hi)]
    exact ⟨⟨⟨hs, hl⟩, rfl, rfl⟩, hg⟩
  · rw [if_neg hi] at hg ⊢
    exact ⟨Holds.intro (List.length_set ..) hs hl
      (window_set_at b.data b.start b.len i x hs hl (by omega)), hg⟩

/-- *"the two slices concatenated present the live elements oldest-first"* -/
theorem slices_abs (b : Bounded α) (h : b.Inv) : b.slices.1 ++ b.slices.2 = b.abs := by
  rw [Bounded.abs, window_eq_rot _ (Nat.le_of_lt h.1) h.2, List.take_append, Bounded.slices]
  split
  · rw [List.take_of_length_le (l := b.data.drop b.start) ‹_›]
  · rw [Nat.sub_eq_zero_of_le (Nat.le_of_lt (Nat.lt_of_not_le ‹_›))]

/-- *"iteration … present[s] the live elements oldest-first"* -/
theorem iter_abs (b : Bounded α) (h : b.Inv) : b.iter = b.abs := slices_abs b h

/-- the mutable slices of `slices_mut`/`iter_mut` are, in order, the slots of live elements 0,1,…:
    `mutPos` splits the identity slice exactly as `slices` splits the data -/
theorem mutPos_slots (b : Bounded α) (h : b.Inv) :
    b.mutPos.1 ++ b.mutPos.2 = (List.range' 0 b.len).map fun i => (b.start + i) % b.data.length := by
  have hs : b.start < b.data.length := h.1
  have hl : b.len ≤ b.data.length := h.2
  rw [slots_eq_rot hs hl, List.take_append, List.length_range', Bounded.mutPos]
  split
  · rw [List.take_range'_of_length_le ‹_›, List.take_range'_of_length_ge (by omega)]
  · rw [List.take_range'_of_length_ge (by omega), Nat.sub_eq_zero_of_le (by omega)]; rfl

/-- *"indexed read/write, iteration, slice views"*, mutable flavour: writing `xs` through
    `iter_mut()` / `slices_mut()` overwrites the oldest `|xs|` live elements, in order, and
    touches nothing else of the queue -/
theorem Holds.mutWrite {cap : Nat} {b : Bounded α} {q : List α} (h : Holds cap b q) (xs : List α) :
    Holds cap (b.mutWrite xs) (xs.take q.length ++ q.drop xs.length) := by
  obtain ⟨⟨hs, hl⟩, rfl, rfl⟩ := h
  rw [← overwrite_zero]
  refine Holds.intro (writeAt_length ..) hs hl ?_
  rw [mutPos_slots b ⟨hs, hl⟩]
  exact window_writeAt b.data b.start b.len b.len 0 xs hs hl (Nat.zero_add _)

/-- *"drain"*: yields the oldest `min k len` elements in order and removes exactly those -/
theorem Holds.drainTake {cap : Nat} {b : Bounded α} {q : List α} (h : Holds cap b q) (k : Nat) :
    Holds cap (Bounded.drainTake k b).1 (q.drop k) ∧ (Bounded.drainTake k b).2 = q.take k := by
  induction k generalizing b q with
  | zero => exact ⟨h, rfl⟩
  | succ k ih =>
    unfold Bounded.drainTake
    rw [h.pop_eq]
    cases q with
    | nil => exact ⟨h.pop.1, rfl⟩
    | cons x r => exact ⟨(ih h.pop.1).1, congrArg (x :: ·) (ih h.pop.1).2⟩

theorem Holds.extend {cap : Nat} {b : Bounded α} {q : List α} (h : Holds cap b q) (xs : List α) :
    Holds cap (b.extend xs)
      (xs.foldl (fun q x => if q.length = cap then q.tail ++ [x] else q ++ [x]) q) := by
  induction xs generalizing b q with
  | nil => exact h
  | cons x xs ih => exact ih (h.push x).1

/-- `from_raw_parts` is the identity on exactly the valid raw parts (its assertion, lib.rs:786-787, is `Inv`) -/
theorem fromRawParts_eq (s l : Nat) (d : List α) :
    Bounded.fromRawParts s l d = if (⟨d, s, l⟩ : Bounded α).Inv then some ⟨d, s, l⟩ else none := by
  unfold Bounded.fromRawParts Bounded.Inv Bounded.maxLen
  by_cases h1 : s < d.length <;> by_cases h2 : l ≤ d.length <;> simp [h1, h2]

theorem reparts_id (b : Bounded α) (h : b.Inv) : Bounded.fromRawParts b.start b.len b.data = some b :=
  (fromRawParts_eq ..).trans (if_pos h)

theorem getAcc_lt (b : Bounded α) (h : b.Inv) (j : Nat) : ∀ i ∈ b.getAcc j, i < b.maxLen := by
  intro i hi
  unfold Bounded.getAcc at hi
  split at hi
  · cases hi
  · rw [List.mem_singleton.mp hi]; exact slot_lt h.1

theorem pushAcc_lt (b : Bounded α) (h : b.Inv) : ∀ i ∈ b.pushAcc, i < b.maxLen := by
  intro i hi
  unfold Bounded.pushAcc at hi
  split at hi <;> rw [List.mem_singleton.mp hi]
  · exact h.1
  · exact slot_lt h.1

theorem popAcc_lt (b : Bounded α) (h : b.Inv) : ∀ i ∈ b.popAcc, i < b.maxLen := by
  intro i hi
  unfold Bounded.popAcc at hi
  split at hi
  · cases hi
  · rw [List.mem_singleton.mp hi]; exact h.1

theorem drainAcc_lt {cap : Nat} {b : Bounded α} {q : List α} (h : Holds cap b q) (k : Nat) :
    ∀ i ∈ Bounded.drainAcc k b, i < cap := by
  induction k generalizing b q with
  | zero => intro i hi; cases hi
  | succ k ih =>
    have hp : ∀ i ∈ b.popAcc, i < cap := h.maxLen_eq ▸ popAcc_lt b h.inv
    unfold Bounded.drainAcc
    rw [h.pop_eq]
    cases q with
    | nil => exact hp
    | cons x r => exact fun i hi => (List.mem_append.mp hi).elim (hp i) (ih h.pop.1 i)

theorem extendAcc_lt {cap : Nat} {b : Bounded α} {q : List α} (h : Holds cap b q) (xs : List α) :
    ∀ i ∈ b.extendAcc xs, i < cap := by
  induction xs generalizing b q with
  | nil => intro i hi; cases hi
  | cons x xs ih =>
    intro i hi
    exact (List.mem_append.mp hi).elim (h.maxLen_eq ▸ pushAcc_lt b h.inv i) (ih (h.push x).1 i)

namespace Fixed

/-- *"keeps length N"*: the abstraction always has exactly `len` elements -/
theorem abs_length (f : Fixed α) : f.abs.length = f.len := window_length _ _ _

theorem len_pos (f : Fixed α) (h : f.Inv) : 1 ≤ f.len := Nat.succ_le_of_lt (Nat.zero_lt_of_lt h)

/-- *"indexing wraps modulo N"*: `get i` is element `i % N` of the oldest-first order -/
theorem get_abs (f : Fixed α) (h : f.Inv) (i : Nat) : some (f.get i) = f.abs[i % f.len]? := by
  rw [Fixed.abs, window_getElem?, if_pos (Nat.mod_lt _ (len_pos f h))]; rfl

theorem push_len (f : Fixed α) (x : α) : (f.push x).1.len = f.len := List.length_set ..

theorem push_first (f : Fixed α) (x : α) (h : f.Inv) : (f.push x).1.first = nextSlot f.len f.first := by
  by_cases h1 : f.first + 1 = f.len
  · rw [nextSlot, if_pos (Nat.le_of_eq h1.symm)]; exact if_pos h1
  · rw [nextSlot, if_neg fun hge => h1 (Nat.le_antisymm (Nat.succ_le_of_lt h) hge)]; exact if_neg h1

theorem push_inv (f : Fixed α) (x : α) (h : f.Inv) : (f.push x).1.Inv := by
  show (f.push x).1.first < (f.push x).1.len
  rw [push_first f x h, push_len]; exact nextSlot_lt h

/-- *"the slice pair … agree[s] on oldest-first order"* -/
theorem slices_abs (f : Fixed α) (h : f.Inv) : f.slices.1 ++ f.slices.2 = f.abs :=
  (window_full f.data (Nat.le_of_lt h)).symm

/-- *"looping … iteration"*: item `k` of `iter_loop` is element `k % N` of the oldest-first order,
    for every `k` (a prefix of any length of the infinite cycle) -/
theorem iterLoop_abs (f : Fixed α) (h : f.Inv) (m : Nat) :
    f.iterLoop m = (List.range m).map fun k => f.abs[k % f.len]! := by
  rw [Fixed.iterLoop, if_neg (Nat.ne_of_gt (len_pos f h))]
  apply List.map_congr_left
  intro k _
  rw [getElem!_def f.abs, ← get_abs f h k, Fixed.get, Fixed.wrapped, Nat.add_mod_mod]

/-- *"plain … iteration"* yields exactly the `N` elements oldest first -/
theorem iter_abs (f : Fixed α) (h : f.Inv) : f.iter = f.abs := by
  rw [Fixed.iter, Fixed.iterLoop, if_neg (Nat.ne_of_gt (len_pos f h))]; rfl

theorem iterChain_abs (f : Fixed α) (h : f.Inv) : f.iterChain = f.abs := slices_abs f h

theorem mutPos_slots (f : Fixed α) (h : f.Inv) :
    f.mutPos.1 ++ f.mutPos.2 = (List.range' 0 f.len).map fun i => (f.first + i) % f.data.length := by
  have h' : f.first < f.data.length := h
  rw [Fixed.len, slots_eq_rot h' (Nat.le_refl _),
    List.take_of_length_le (by rw [List.length_append, List.length_range', List.length_range']; omega)]
  rfl

theorem reparts_id (f : Fixed α) (h : f.Inv) : Fixed.fromRawParts f.first f.data = some f := by
  rw [Fixed.fromRawParts, if_pos (show f.first < f.data.length from h)]

end Fixed

/-- `f` is a valid ring of `n` slots whose elements, oldest first, are `a.1`, read from slot `a.2` -/
structure HoldsF (n : Nat) (f : Fixed α) (a : List α × Nat) : Prop where
  inv : f.Inv
  len_eq : f.len = n
  abs_eq : (f.abs, f.first) = a

theorem HoldsF.of_inv {f : Fixed α} (h : f.Inv) : HoldsF f.len f (f.abs, f.first) := ⟨h, rfl, rfl⟩

/-- *"each push returns the element at index 0 and makes the pushed element the newest at index
    N-1"*: the result is `l[0]`, the new order is the old one without its head, `x` appended -/
theorem HoldsF.push {n p : Nat} {f : Fixed α} {l : List α} (h : HoldsF n f (l, p)) (x : α) :
    HoldsF n (f.push x).1 (l.tail ++ [x], nextSlot n p) ∧ some (f.push x).2 = l.head? := by
  obtain ⟨hi, rfl, ⟨⟩⟩ := h
  refine ⟨⟨Fixed.push_inv f x hi, Fixed.push_len f x, Prod.ext ?_ (Fixed.push_first f x hi)⟩,
    (window_head? _ _ _ hi (Fixed.len_pos f hi)).symm⟩
  rw [Fixed.abs, Fixed.push_first f x hi, Fixed.push_len]
  exact window_rotate_push f.data f.first x hi

theorem HoldsF.getMutSet {n p : Nat} {f : Fixed α} {l : List α} (h : HoldsF n f (l, p)) (i : Nat) (x : α) :
    HoldsF n (f.getMutSet i x).1 (l.set (i % n) x, p) ∧ some (f.getMutSet i x).2 = l[i % n]? := by
  obtain ⟨hi, rfl, ⟨⟩⟩ := h
  have hl : (f.getMutSet i x).1.len = f.len := List.length_set ..
  refine ⟨⟨?_, hl, Prod.ext ?_ rfl⟩, Fixed.get_abs f hi i⟩
  · show f.first < (f.getMutSet i x).1.len
    rw [hl]; exact hi
  · rw [Fixed.abs, hl]
    exact window_set_at f.data f.first f.len (i % f.len) x hi (Nat.le_refl _)
      (Nat.mod_lt _ (Fixed.len_pos f hi))

/-- rotate left by `k ≤ length` -/
def rotl (l : List α) (k : Nat) : List α := l.drop k ++ l.take k

/-- *"set_first"*: moves the read position to slot `j % N`; length stays `N` and the new order is
    the old one rotated (no element is lost or duplicated) -/
theorem HoldsF.setFirst {n p : Nat} {f : Fixed α} {l : List α} (h : HoldsF n f (l, p))
    (j : Nat) : HoldsF n (f.setFirst j) (rotl l ((j % n + n - p) % n), j % n) := by
  obtain ⟨hi, rfl, ⟨⟩⟩ := h
  have hN : 0 < f.data.length := Nat.zero_lt_of_lt hi
  refine ⟨Nat.mod_lt _ hN, rfl, Prod.ext ?_ rfl⟩
  rw [rotl, ← window_full _ (by rw [Fixed.abs_length]; exact Nat.le_of_lt (Nat.mod_lt _ hN))]
  unfold Fixed.abs Fixed.setFirst Fixed.len
  rw [window_length, window_window _ _ _ _ hN, rot_back (n := f.data.length) hi (Nat.mod_lt _ hN)]

/-- *"mutable iteration"*: writing `xs` through `iter_mut()`/`slices_mut()` overwrites the oldest
    `|xs|` elements in order; length and `first` unchanged -/
theorem HoldsF.mutWrite {n p : Nat} {f : Fixed α} {l : List α} (h : HoldsF n f (l, p)) (xs : List α) :
    HoldsF n (f.mutWrite xs) (xs.take n ++ l.drop xs.length, p) := by
  obtain ⟨hi, rfl, ⟨⟩⟩ := h
  have hl : (f.mutWrite xs).len = f.len := writeAt_length ..
  refine ⟨?_, hl, Prod.ext ?_ rfl⟩
  · show f.first < (f.mutWrite xs).len
    rw [hl]; exact hi
  · rw [← Fixed.abs_length f, ← overwrite_zero, Fixed.abs, hl]
    show window (writeAt f.data (f.mutPos.1 ++ f.mutPos.2) xs) f.first f.len = _
    rw [Fixed.mutPos_slots f hi]
    exact window_writeAt f.data f.first f.len f.len 0 xs hi (Nat.le_refl _) (Nat.zero_add _)

theorem HoldsF.extend {n p : Nat} {f : Fixed α} {l : List α} (h : HoldsF n f (l, p)) (xs : List α) :
    HoldsF n (f.extend xs) (xs.foldl (fun s x => (s.1.tail ++ [x], nextSlot n s.2)) (l, p)) := by
  induction xs generalizing f l p with
  | nil => exact h
  | cons x xs ih => exact ih (h.push x).1

namespace Fixed

theorem push_refines (f : Fixed α) (x : α) (h : f.Inv) :
    (f.push x).1.abs = f.abs.tail ++ [x] ∧ some (f.push x).2 = f.abs.head? :=
  ⟨congrArg Prod.fst ((HoldsF.of_inv h).push x).1.abs_eq, ((HoldsF.of_inv h).push x).2⟩

/-- the same with the old order spelt `a :: t` (it is never empty) -/
theorem push_cons (f : Fixed α) (x : α) (h : f.Inv) :
    ∃ a t, f.abs = a :: t ∧ (f.push x).2 = a ∧ (f.push x).1.abs = t ++ [x] := by
  obtain ⟨a, t, ha⟩ := List.exists_cons_of_length_pos (l := f.abs) (by rw [abs_length]; exact len_pos f h)
  obtain ⟨h1, h2⟩ := push_refines f x h
  rw [ha] at h1 h2
  exact ⟨a, t, ha, Option.some.inj h2, h1⟩

theorem push_newest (f : Fixed α) (x : α) (h : f.Inv) : (f.push x).1.abs[f.len - 1]? = some x := by
  have h3 : f.abs.tail.length = f.len - 1 := by rw [List.length_tail, abs_length]
  rw [(push_refines f x h).1, List.getElem?_append_right (Nat.le_of_eq h3), h3, Nat.sub_self]
  rfl

/-- `extend` keeping what the pushes return, oldest first (`Fixed::extend` discards it) -/
def pushAll (f : Fixed α) : List α → Fixed α × List α
  | [] => (f, [])
  | x :: xs => ((pushAll (f.push x).1 xs).1, (f.push x).2 :: (pushAll (f.push x).1 xs).2)

theorem pushAll_fst (xs : List α) (f : Fixed α) : (pushAll f xs).1 = f.extend xs := by
  induction xs generalizing f with
  | nil => rfl
  | cons x xs ih => exact ih _

/-- a delay line: what was in the ring followed by what is pushed is what comes out followed by what is in it -/
theorem pushAll_spec (xs : List α) (f : Fixed α) (h : f.Inv) :
    (pushAll f xs).2 = (f.abs ++ xs).take xs.length ∧ (pushAll f xs).1.abs = (f.abs ++ xs).drop xs.length := by
  induction xs generalizing f with
  | nil => exact ⟨rfl, (List.append_nil _).symm⟩
  | cons x xs ih =>
    obtain ⟨a, t, ha, rfl, p2⟩ := push_cons f x h
    obtain ⟨i1, i2⟩ := ih _ (push_inv f x h)
    rw [p2, List.append_assoc] at i1 i2
    rw [ha]
    exact ⟨congrArg (_ :: ·) i1, i2⟩

theorem extend_abs (xs : List α) (f : Fixed α) (h : f.Inv) :
    (f.extend xs).Inv ∧ (f.extend xs).len = f.len ∧ (f.extend xs).abs = (f.abs ++ xs).drop xs.length :=
  ⟨((HoldsF.of_inv h).extend xs).inv, ((HoldsF.of_inv h).extend xs).len_eq, pushAll_fst xs f ▸ (pushAll_spec xs f h).2⟩

theorem extendAcc_lt (xs : List α) (f : Fixed α) (h : f.Inv) : ∀ i ∈ f.extendAcc xs, i < f.len := by
  induction xs generalizing f with
  | nil => intro i hi; cases hi
  | cons x xs ih =>
    intro i hi
    rcases List.mem_cons.mp hi with rfl | hi
    · exact h
    · exact push_len f x ▸ ih (f.push x).1 (push_inv f x h) i hi

end Fixed

end Dasp.Props.C06
