import Dasp.Gen.Types
import Mathlib.Tactic.Ring
/-!
# Helper lemmas for C15 (custom-width sample types)

Generic over a `TypeSpec` satisfying the side conditions `WF` (TOTAL = MAX − MIN + 1,
TOTAL ∣ 2^repbits, 0 in range (so that one wrap suffices after `+ − neg`), the range and the intermediate results of `+ − neg` on in-range operands
fit the backing type).  `Props/C15.lean` instantiates them for the eight generated records by
`decide`.  The statements are about `Dasp.Gen.Types.macroDef`, the macro bodies regenerated
from `types.rs` on every run.

Both wrap-arounds, `ITy.wrap` of the backing type and the specification `wrapT`, are
`(v − lo) % m + lo`: the `modShift_*` lemmas (beside `ITy.wrap`) are about that expression.  The two `while` loops of
`wrap_overflow` are instances of `loop_inv` (an invariant and a measure for any loop of the macro
language).  `opSpec` is what every arithmetic operator returns.
-/
namespace Dasp.Types
open Dasp Dasp.Gen.Types

/-- side conditions on the generated constants of one type -/
structure WF (ts : TypeSpec) : Prop where
  total_eq : ts.total = ts.max - ts.min + 1
  range_fits : ts.rep.lo ≤ ts.min ∧ ts.max ≤ ts.rep.hi
  add_fits : ts.rep.lo ≤ ts.min + ts.min ∧ ts.max + ts.max ≤ ts.rep.hi
  sub_fits : ts.rep.lo ≤ ts.min - ts.max ∧ ts.max - ts.min ≤ ts.rep.hi
  neg_fits : ts.rep.lo ≤ - ts.max ∧ - ts.min ≤ ts.rep.hi
  dvd : ts.rep.modulus % ts.total = 0
  zero_inRange : ts.min ≤ 0 ∧ 0 ≤ ts.max

instance (ts : TypeSpec) : Decidable (WF ts) :=
  decidable_of_iff (_ ∧ _ ∧ _ ∧ _ ∧ _ ∧ _ ∧ _)
    ⟨fun ⟨a, b, c, d, e, f, g⟩ => ⟨a, b, c, d, e, f, g⟩, fun ⟨a, b, c, d, e, f, g⟩ => ⟨a, b, c, d, e, f, g⟩⟩

theorem WF.total_pos {ts : TypeSpec} (wf : WF ts) : 0 < ts.total := by
  have := wf.total_eq; have := wf.zero_inRange; omega

/-- the widening `From` lists only name sources whose whole range fits (Bool-valued so that it
    is decided by evaluation) -/
def wfFromB (all : List TypeSpec) (ts : TypeSpec) : Bool :=
  ts.fromPrims.all (fun p => decide (ts.min ≤ p.lo) && decide (p.hi ≤ ts.max)) &&
  ts.fromCustom.all (fun ic => match all[ic.1]? with
    | some s => decide (s.rep = ic.2) && decide (ts.min ≤ s.min) && decide (s.max ≤ ts.max)
    | none => false)

theorem inR_iff (t : ITy) (v : Int) : inR t v = true ↔ t.inRange v := by
  simp only [inR, ITy.inRange, Bool.and_eq_true, decide_eq_true_eq]

theorem wrapT_inRange (ts : TypeSpec) (wf : WF ts) (v : Int) : ts.inRange (wrapT ts v) := by
  have := modShift_range wf.total_pos ts.min v
  have := wf.total_eq
  unfold TypeSpec.inRange wrapT; omega

theorem wrapT_id (ts : TypeSpec) (wf : WF ts) (v : Int) (h : ts.inRange v) : wrapT ts v = v :=
  modShift_id h.1 (by have := wf.total_eq; have := h.2; omega)

theorem wrapT_congr (ts : TypeSpec) (v : Int) : ∃ k : Int, wrapT ts v = v + k * ts.total :=
  modShift_congr ts.total ts.min v

theorem wrapT_add_mul (ts : TypeSpec) (v k : Int) : wrapT ts (v + k * ts.total) = wrapT ts v := by
  unfold wrapT
  have : v + k * ts.total - ts.min = (v - ts.min) + k * ts.total := by ring
  rw [this, Int.add_mul_emod_self_right]

theorem wrapT_unique (ts : TypeSpec) (wf : WF ts) (v r k : Int) (hr : ts.inRange r) (hk : r = v + k * ts.total) :
    r = wrapT ts v := by
  rw [← wrapT_add_mul ts v k, ← hk, wrapT_id ts wf r hr]

/-- the backing-type wrap-around is invisible modulo TOTAL because TOTAL ∣ 2^repbits -/
theorem wrapT_repwrap (ts : TypeSpec) (wf : WF ts) (v : Int) : wrapT ts (ts.rep.wrap v) = wrapT ts v := by
  obtain ⟨k, hk⟩ := modShift_congr ts.rep.modulus ts.rep.lo v
  obtain ⟨q, hq⟩ := Int.dvd_of_emod_eq_zero wf.dvd
  rw [ITy.wrap, hk, hq, show v + k * (ts.total * q) = v + (k * q) * ts.total by ring, wrapT_add_mul]

/-! ### the two `while` loops of `wrap_overflow`, as generated -/

abbrev cDown : Cond := .cmp .gt .self0 .maxRep
abbrev uDown : TExpr := .sub .self0 .total
abbrev cUp : Cond := .cmp .lt .self0 .minRep
abbrev uUp : TExpr := .add .self0 .total

theorem cDown_val (ts : TypeSpec) (x : Int) : cDown.val ts (envS x) = true ↔ ts.max < x := decide_eq_true_iff
theorem cUp_val (ts : TypeSpec) (x : Int) : cUp.val ts (envS x) = true ↔ x < ts.min := decide_eq_true_iff

theorem loop_inv (ts : TypeSpec) (c : Cond) (upd : TExpr) (J : Int → Prop) (μ : Int → Nat)
    (hok : ∀ v, J v → c.ok ts (envS v) = true)
    (hstep : ∀ v, J v → c.val ts (envS v) = true →
      J (valE ts (envS v) upd) ∧ okE ts (envS v) upd = true ∧ μ (valE ts (envS v) upd) < μ v)
    (n : Nat) (v : Int) (hv : J v) (hn : μ v ≤ n) :
    J (loopVal ts c upd n v) ∧ c.val ts (envS (loopVal ts c upd n v)) = false ∧
      loopOk ts c upd n v = true := by
  induction n generalizing v with
  | zero =>
    refine ⟨hv, ?_, rfl⟩
    cases hc : c.val ts (envS v) with
    | false => exact hc
    | true => have := (hstep v hv hc).2.2; omega
  | succ n ih =>
    cases hc : c.val ts (envS v) with
    | false => simp only [loopVal, loopOk, hc, hok v hv]; exact ⟨hv, hc, rfl⟩
    | true =>
      obtain ⟨hJ, hO, hμ⟩ := hstep v hv hc
      obtain ⟨a, b, d⟩ := ih _ hJ (by omega)
      simp only [loopVal, loopOk, hc, hok v hv, hO, d, if_true]
      exact ⟨a, b, rfl⟩

/-- above `MAX`, `self.0 - TOTAL` is computed without wrap-around: it is at least `MIN` -/
theorem uDown_eval (ts : TypeSpec) (wf : WF ts) {x : Int} (h2 : x ≤ ts.rep.hi) (hgt : ts.max < x) :
    valE ts (envS x) uDown = x - ts.total ∧ okE ts (envS x) uDown = true ∧ ts.rep.inRange (x - ts.total) := by
  have htot := wf.total_eq
  have hpos := wf.total_pos
  have hlo := wf.range_fits.1
  have hr : ts.rep.inRange (x - ts.total) := by unfold ITy.inRange; omega
  exact ⟨ITy.wrap_of_inRange hr, (inR_iff _ _).mpr hr, hr⟩

/-- the mirror image: below `MIN`, `self.0 + TOTAL` is at most `MAX`, so again no wrap-around -/
theorem uUp_eval (ts : TypeSpec) (wf : WF ts) {x : Int} (h1 : ts.rep.lo ≤ x) (hlt : x < ts.min) :
    valE ts (envS x) uUp = x + ts.total ∧ okE ts (envS x) uUp = true ∧ ts.rep.inRange (x + ts.total) := by
  have htot := wf.total_eq
  have hpos := wf.total_pos
  have hhi := wf.range_fits.2
  have hr : ts.rep.inRange (x + ts.total) := by unfold ITy.inRange; omega
  exact ⟨ITy.wrap_of_inRange hr, (inR_iff _ _).mpr hr, hr⟩

/-- what both loops of `wrap_overflow` keep: a backing-type value congruent to the start `v0` -/
def Near (ts : TypeSpec) (v0 x : Int) : Prop :=
  ts.rep.inRange x ∧ ∃ k : Int, x = v0 + k * ts.total

/-- `while self.0 > MAX { self.0 -= TOTAL }` from a backing-type value `v`: stops at or below `MAX` -/
theorem loopDown_spec (ts : TypeSpec) (wf : WF ts) (n : Nat) (v : Int)
    (hv : ts.rep.inRange v) (hf : (v - ts.max).toNat ≤ n) :
    Near ts v (loopVal ts cDown uDown n v) ∧
    loopVal ts cDown uDown n v ≤ ts.max ∧ loopOk ts cDown uDown n v = true := by
  have h := loop_inv ts cDown uDown (Near ts v) (fun x => (x - ts.max).toNat)
    (fun _ _ => rfl)
    (fun x ⟨hx, k, hk⟩ hc => by
      have hgt := (cDown_val ts x).mp hc
      obtain ⟨hv, ho, hr⟩ := uDown_eval ts wf hx.2 hgt
      rw [hv]
      exact ⟨⟨hr, k - 1, by rw [hk]; ring⟩, ho,
        (Int.toNat_lt_toNat (Int.sub_pos.mpr hgt)).mpr (Int.sub_lt_sub_right (Int.sub_lt_self x wf.total_pos) _)⟩)
    n v ⟨hv, 0, by ring⟩ hf
  exact ⟨h.1, not_lt.mp fun hgt => Bool.false_ne_true (h.2.1 ▸ (cDown_val ts _).mpr hgt), h.2.2⟩

/-- `while self.0 < MIN { self.0 += TOTAL }`, the mirror image; it runs second, so it also says that a value
    at or below `MAX` stays there -/
theorem loopUp_spec (ts : TypeSpec) (wf : WF ts) (n : Nat) (v : Int)
    (hv : ts.rep.inRange v) (hf : (ts.min - v).toNat ≤ n) :
    Near ts v (loopVal ts cUp uUp n v) ∧ (v ≤ ts.max → loopVal ts cUp uUp n v ≤ ts.max) ∧
    ts.min ≤ loopVal ts cUp uUp n v ∧ loopOk ts cUp uUp n v = true := by
  have h := loop_inv ts cUp uUp (fun x => Near ts v x ∧ (v ≤ ts.max → x ≤ ts.max)) (fun x => (ts.min - x).toNat)
    (fun _ _ => rfl)
    (fun x ⟨⟨hx, k, hk⟩, _⟩ hc => by
      have hlt := (cUp_val ts x).mp hc
      obtain ⟨hv, ho, hr⟩ := uUp_eval ts wf hx.1 hlt
      rw [hv]
      exact ⟨⟨⟨hr, k + 1, by rw [hk]; ring⟩, fun _ => by have := wf.total_eq; omega⟩, ho,
        (Int.toNat_lt_toNat (Int.sub_pos.mpr hlt)).mpr (Int.sub_lt_sub_left (Int.lt_add_of_pos_right x wf.total_pos) _)⟩)
    n v ⟨⟨hv, 0, by ring⟩, id⟩ hf
  exact ⟨h.1.1, h.1.2, not_lt.mp fun hlt => Bool.false_ne_true (h.2.1 ▸ (cUp_val ts _).mpr hlt), h.2.2⟩

theorem fuel_ge (ts : TypeSpec) (v : Int) :
    (v - ts.max).toNat ≤ fuel ts v ∧ (ts.min - v).toNat ≤ fuel ts v := by
  have a1 : v ≤ v.natAbs := Int.le_natAbs
  have a2 : -v ≤ v.natAbs := by rw [← Int.natAbs_neg]; exact Int.le_natAbs
  have b : -ts.max ≤ ts.max.natAbs := by rw [← Int.natAbs_neg]; exact Int.le_natAbs
  have c : ts.min ≤ ts.min.natAbs := Int.le_natAbs
  unfold fuel
  -- the absolute values become atoms: `omega` would split on each of them otherwise
  generalize v.natAbs = x at *
  generalize ts.max.natAbs = y at *
  generalize ts.min.natAbs = z at *
  omega

/-- `wrap_overflow` (both loops, as generated) on any backing-type value: the result is the
    value wrapped modulo TOTAL into range; both loops terminate within their fuel; no
    backing-type overflow occurs on the way (so the overflow-checked build does not panic). -/
theorem wrapFull_spec (ts : TypeSpec) (wf : WF ts) (dbg : Bool) (v : Int) (hv : ts.rep.inRange v) :
    stmtsVal ts macroDef.wrapFull v = wrapT ts v ∧ stmtsOk ts dbg macroDef.wrapFull v = true := by
  have hm : macroDef.wrapFull = [.whileSub cDown .total, .whileAdd cUp .total] := rfl
  obtain ⟨⟨d1, kd, hkd⟩, d4, d5⟩ := loopDown_spec ts wf (fuel ts v) v hv (fuel_ge ts v).1
  generalize hx : loopVal ts cDown uDown (fuel ts v) v = x at *
  obtain ⟨⟨-, ku, hku⟩, u3, u4, u5⟩ := loopUp_spec ts wf (fuel ts x) x d1 (fuel_ge ts x).2
  generalize hr : loopVal ts cUp uUp (fuel ts x) x = r at *
  have u3 := u3 d4
  have hspec : r = wrapT ts v :=
    wrapT_unique ts wf v r (kd + ku) ⟨u4, u3⟩ (by rw [hku, hkd]; ring)
  simp only [hm, stmtsVal, stmtsOk, Stmt.cond, Stmt.upd, loopDone, hx, hr, d5, u5, Cond.val, valE, envS, Cmp.holds,
    Bool.and_true, Bool.or_true, Bool.not_eq_true', Bool.and_eq_true]
  exact ⟨hspec, decide_eq_false (by omega), decide_eq_false (by omega)⟩

/-- `wrap_overflow_once` as generated, on a backing-type value at most one TOTAL away from the range: one
    wrap brings it into range -/
theorem wrapOnce_spec (ts : TypeSpec) (wf : WF ts) (x : Int) (hx : ts.rep.inRange x)
    (h3 : ts.min - ts.total ≤ x) (h4 : x ≤ ts.max + ts.total) :
    val0 ts (envS x) macroDef.wrapOnce = wrapT ts x := by
  have htot := wf.total_eq
  show (if cDown.val ts (envS x) then valE ts (envS x) uDown
    else if cUp.val ts (envS x) then valE ts (envS x) uUp else x) = _
  by_cases h1 : ts.max < x
  · rw [if_pos ((cDown_val ts x).mpr h1), (uDown_eval ts wf hx.2 h1).1]
    exact wrapT_unique ts wf x _ (-1) ⟨by omega, by omega⟩ (by ring)
  · rw [if_neg (mt (cDown_val ts x).mp h1)]
    by_cases h2 : x < ts.min
    · rw [if_pos ((cUp_val ts x).mpr h2), (uUp_eval ts wf hx.1 h2).1]
      exact wrapT_unique ts wf x _ 1 ⟨by omega, by omega⟩ (by ring)
    · rw [if_neg (mt (cUp_val ts x).mp h2)]
      exact (wrapT_id ts wf x ⟨by omega, by omega⟩).symm

/-- `new` as generated -/
theorem new_spec (ts : TypeSpec) (v : Int) :
    newRun ts macroDef v = (if ts.inRange v then some v else none) ∧ okO ts ⟨0, 0, v⟩ macroDef.newBody = true := by
  have hm : macroDef.newBody = .ite (.or (.cmp .gt .val .maxRep) (.cmp .lt .val .minRep)) .none (.some (.mk .val)) := rfl
  simp only [newRun, hm, valO, okO, val0, ok0, Cond.val, Cond.ok, valE, okE, Cmp.holds, TypeSpec.inRange]
  by_cases h1 : v > ts.max
  · have : ¬ (ts.min ≤ v ∧ v ≤ ts.max) := by omega
    simp [h1, this]
  · by_cases h2 : v < ts.min
    · have : ¬ (ts.min ≤ v ∧ v ≤ ts.max) := by omega
      simp [h2, this]
    · have : ts.min ≤ v ∧ v ≤ ts.max := by omega
      simp [h1, h2, this]

theorem opRun_ifDebug (ts : TypeSpec) (md : MacroDef) (dbg : Bool) (env : Env) (t e : Body) :
    opRun ts md dbg env (.ifDebug t e) = if dbg then opRun ts md dbg env t else opRun ts md dbg env e := by
  cases dbg <;> rfl

/-- `$T::new(x).expect(..)` in the debug-assertions build, where `x` computes the exact value
    `e` at the backing type: the exact value if it is in range, otherwise a panic (either the
    backing-type overflow check or the `expect`). -/
theorem newExpect_debug (ts : TypeSpec) (wf : WF ts) (env : Env) (x : TExpr) (e : Int)
    (hval : valE ts env x = ts.rep.wrap e) (hok : okE ts env x = inR ts.rep e) :
    opRun ts macroDef true env (.newExpect x) = if ts.inRange e then some e else none := by
  obtain ⟨hlo, hhi⟩ := wf.range_fits
  have hn := new_spec ts (ts.rep.wrap e)
  unfold newRun at hn
  simp only [opRun, opOk, opVal, okB, valB, hval, hok, hn.1, hn.2, Bool.not_true, Bool.false_or, Bool.and_true]
  by_cases hr : ts.rep.inRange e
  · rw [ITy.wrap_of_inRange hr, (inR_iff _ _).2 hr]
    by_cases h : ts.inRange e <;> simp [h]
  · have hi : inR ts.rep e = false := Bool.eq_false_iff.mpr (mt (inR_iff _ _).1 hr)
    have : ¬ ts.inRange e := fun h => hr ⟨hlo.trans h.1, h.2.trans hhi⟩
    simp [hi, this]

/-- `$T(x).wrap_overflow_once()` in the release build, where the exact value `e` of `x` fits
    the backing type and is at most one TOTAL away from the range -/
theorem wrapOnce_release (ts : TypeSpec) (wf : WF ts) (env : Env) (x : TExpr) (e : Int)
    (hval : valE ts env x = ts.rep.wrap e) (hr : ts.rep.inRange e)
    (h3 : ts.min - ts.total ≤ e) (h4 : e ≤ ts.max + ts.total) :
    opRun ts macroDef false env (.wrapOnce (.mk x)) = some (wrapT ts e) := by
  simp only [opRun, opOk, opVal, okB, valB, hval, ITy.wrap_of_inRange hr, wrapOnce_spec ts wf e hr h3 h4, Bool.not_false, Bool.true_or,
    Bool.and_true, if_true]

/-- `From<$Rep>` as generated, in either build: wraps modulo TOTAL into range, terminates, never panics -/
theorem fromRun_spec (ts : TypeSpec) (wf : WF ts) (dbg : Bool) (v : Int) (hv : ts.rep.inRange v) :
    fromRun ts macroDef dbg v = some (wrapT ts v) := by
  have hm : macroDef.fromRep = .wrapFull (.mk .val) := rfl
  have h := wrapFull_spec ts wf dbg v hv
  simp only [fromRun, fromRepOk, fromRepVal, hm, okB, valB, valE, okE, h.1, h.2, Bool.or_true, Bool.and_true, if_true]

/-- `$T::from(x)` in the release build, `x` computing `e` at the backing type (with wrap-around) -/
theorem fromRep_release (ts : TypeSpec) (wf : WF ts) (env : Env) (x : TExpr) (e : Int)
    (hval : valE ts env x = ts.rep.wrap e) :
    opRun ts macroDef false env (.fromRep x) = some (wrapT ts e) := by
  have h := fromRun_spec ts wf false (ts.rep.wrap e) (ts.rep.wrap_inRange e)
  unfold fromRun at h
  have hok : fromRepOk ts macroDef false (ts.rep.wrap e) = true := by
    by_contra hc; simp [hc] at h
  simp only [hok, if_true, Option.some.injEq] at h
  simp only [opRun, opOk, opVal, okB, valB, hval, hok, h, Bool.not_false, Bool.true_or, Bool.true_and, if_true,
    wrapT_repwrap ts wf e]

/-- release: the exact result `e` wrapped modulo TOTAL into range; debug assertions: `e` if it is in
    range, otherwise a panic -/
def opSpec (ts : TypeSpec) (dbg : Bool) (e : Int) : Option Int :=
  if dbg then (if ts.inRange e then some e else none) else some (wrapT ts e)

theorem opSpec_inRange (ts : TypeSpec) (wf : WF ts) (dbg : Bool) (e r : Int) (h : opSpec ts dbg e = some r) :
    ts.inRange r := by
  unfold opSpec at h
  cases dbg
  · cases h; exact wrapT_inRange ts wf e
  · by_cases hr : ts.inRange e
    · rw [if_pos rfl, if_pos hr] at h; cases h; exact hr
    · rw [if_pos rfl, if_neg hr] at h; cases h

/-- `+`, `−`, unary `−`: `new(x).expect(..)` in the debug build, `$T(x).wrap_overflow_once()` otherwise,
    where the exact value `e` of `x` fits the backing type and is at most one TOTAL away from the range
    (`h`, with `ts.rep.inRange e` written out: one conjunction, so that a caller proves it by a single `omega`) -/
theorem arith_once_spec (ts : TypeSpec) (wf : WF ts) (dbg : Bool) (env : Env) (x : TExpr) (e : Int)
    (hval : valE ts env x = ts.rep.wrap e) (hok : okE ts env x = inR ts.rep e)
    (h : (ts.rep.lo ≤ e ∧ e ≤ ts.rep.hi) ∧ ts.min - ts.total ≤ e ∧ e ≤ ts.max + ts.total) :
    opRun ts macroDef dbg env (.ifDebug (.newExpect x) (.wrapOnce (.mk x))) = opSpec ts dbg e := by
  rw [opRun_ifDebug]
  cases dbg
  · exact wrapOnce_release ts wf env x e hval h.1 h.2.1 h.2.2
  · exact newExpect_debug ts wf env x e hval hok

end Dasp.Types
