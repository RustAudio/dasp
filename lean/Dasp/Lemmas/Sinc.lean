import Dasp.Model.Sinc
import Dasp.Lemmas.Converter
import Dasp.Lemmas.RingOps
import Dasp.Lemmas.SrcQueue
/-!
# Sinc interpolator (helper lemmas for C18)

The invariant `Inv` of reachable states and index safety from it (`Inv.len_eq`, `maxDepth_eq`, `index_safe`).
The ring read through the `Fixed` of C06: `Ring.toFixed`, on which `push` and `get` are `Fixed`'s
(`toFixed_push`, `get_eq_fixed`), so what is read after any pushes comes from `Fixed.extend_abs` and
`Fixed.get_abs` (`pushes_get`); `feed_read` is that for the interpolator state after `feed`, and
`feed_read_replicate` from `2·depth` equilibrium frames.  One tap of the linear form (`accum_id`, `tapStep_id`),
the kernel on the grid (`kernel_grid`), `interpolate` on the grid and in a silent state.

The statements that speak of arithmetic are about the definitions of `Dasp/Model/Sinc.lean` at the
exact-arithmetic instance `ratArith sn cs pi` with ARBITRARY `sn cs : ℚ → ℚ` and `pi : ℚ`; what a theorem
needs about them is an explicit hypothesis.
-/
namespace Dasp.Sinc
open Dasp.Conv

/-- the invariant of reachable states: even non-zero ring length, `first` inside the ring (the
    invariant of `Fixed`, lib.rs:331), read index at most `depth` -/
def Inv {F : Type} (s : St F) : Prop :=
  s.ring.len % 2 = 0 ∧ 0 < s.ring.len ∧ s.ring.first < s.ring.len ∧ s.idx ≤ depth s

section generic
variable {F : Type}

theorem Inv.even {s : St F} (h : Inv s) : s.ring.len % 2 = 0 := h.1
theorem Inv.len_pos {s : St F} (h : Inv s) : 0 < s.ring.len := h.2.1
theorem Inv.first_lt {s : St F} (h : Inv s) : s.ring.first < s.ring.len := h.2.2.1
theorem Inv.idx_le {s : St F} (h : Inv s) : s.idx ≤ depth s := h.2.2.2

theorem Inv.len_eq {s : St F} (h : Inv s) : s.ring.len = 2 * depth s := by
  have := h.even; unfold depth; omega

@[simp] theorem push_len (r : Ring F) (x : List F) : (r.push x).len = r.len := by
  simp [Ring.push, Ring.len]

theorem depth_congr {s s' : St F} (hl : s'.ring.len = s.ring.len) : depth s' = depth s := congrArg (· / 2) hl

theorem maxDepth_congr {s s' : St F} (hi : s'.idx = s.idx) (hl : s'.ring.len = s.ring.len) :
    maxDepth s' = maxDepth s := by
  unfold maxDepth maxDepthI depth; rw [hi, hl]

/-- the ring as the `Fixed` of `Model/Ring.lean`: same data, same `first` -/
def Ring.toFixed (r : Ring F) : Dasp.Ring.Fixed (List F) := ⟨r.data, r.first⟩

theorem toFixed_push (r : Ring F) (x : List F) : (r.push x).toFixed = (r.toFixed.push x).1 := rfl

/-- the model indexes with `(first + i) % len` (the crate's expression before fix 5f913b5), `Fixed.get` with
    `(first + i % len) % len` (after it): the same slot over `Nat` -/
theorem get_eq_fixed (eq : List F) (r : Ring F) (i : Nat) (h : (r.first + i) % r.len < r.len) :
    r.get eq i = r.toFixed.get i := by
  show r.data.getD _ eq = r.data[(r.first + i % r.data.length) % r.data.length]!
  rw [Nat.add_mod_mod, getElem!_pos r.data _ h, List.getD_eq_getElem?_getD, List.getElem?_eq_getElem h]; rfl

theorem toFixed_pushes (xs : List (List F)) (r : Ring F) :
    (xs.foldl Ring.push r).toFixed = r.toFixed.extend xs := by
  induction xs generalizing r with
  | nil => rfl
  | cons x xs ih => rw [List.foldl_cons, ih, toFixed_push]; rfl

theorem get_eq_abs (eq : List F) (r : Ring F) (hf : r.first < r.len) (i : Nat) (hi : i < r.len) :
    r.get eq i = (r.toFixed.abs)[i]?.getD eq := by
  have := Dasp.Props.C06.Fixed.get_abs r.toFixed hf i
  rw [Nat.mod_eq_of_lt (show i < r.toFixed.len from hi)] at this
  rw [get_eq_fixed eq r i (Nat.mod_lt _ (Nat.zero_lt_of_lt hi)), ← this]; rfl

/-- after the pushes `xs`, ring index `i` is position `i + xs.length` of the earlier content followed by `xs` -/
theorem pushes_get (eq : List F) (xs : List (List F)) (r : Ring F) (hf : r.first < r.len) (i : Nat)
    (hi : i < r.len) :
    (xs.foldl Ring.push r).get eq i = (r.toFixed.abs ++ xs)[i + xs.length]?.getD eq := by
  obtain ⟨a, b, c⟩ := Dasp.Props.C06.Fixed.extend_abs xs r.toFixed hf
  rw [← toFixed_pushes] at a b c
  rw [get_eq_abs eq _ a i (Nat.lt_of_lt_of_eq hi b.symm), c, List.getElem?_drop, Nat.add_comm]

theorem abs_first_zero (d : List (List F)) : (⟨d, 0⟩ : Ring F).toFixed.abs = d :=
  (Dasp.Ring.window_full d (Nat.zero_le _)).trans (List.append_nil d)

theorem get_replicate (eq : List F) (n first i : Nat) : Ring.get eq ⟨List.replicate n eq, first⟩ i = eq := by
  simp only [Ring.get, List.getD_eq_getElem?_getD, List.getElem?_replicate]
  split <;> rfl

theorem inv_new (ring : Ring F) (s : St F) (h : new ring = some s) (hf : ring.first < ring.len) : Inv s := by
  unfold new at h
  split at h
  · cases h
    exact ⟨by assumption, Nat.lt_of_le_of_lt (Nat.zero_le _) hf, hf, Nat.zero_le _⟩
  · cases h

theorem push_idx (s : St F) (f : List F) (h : s.idx ≤ depth s) :
    (nextSourceFrame s f).idx = min (s.idx + 1) (depth s) := by
  show (if s.idx < depth s then s.idx + 1 else s.idx) = _
  split <;> omega

theorem inv_push (s : St F) (f : List F) (h : Inv s) : Inv (nextSourceFrame s f) := by
  have hl : (nextSourceFrame s f).ring.len = s.ring.len := push_len s.ring f
  refine ⟨hl ▸ h.even, hl ▸ h.len_pos, Dasp.Props.C06.Fixed.push_inv s.ring.toFixed f h.first_lt, ?_⟩
  rw [depth_congr hl, push_idx s f h.idx_le]
  exact Nat.min_le_right _ _

theorem inv_reset (eq : List F) (s : St F) (h : Inv s) : Inv (reset eq s) := by
  unfold Inv reset depth Ring.len
  simp only [List.length_map]
  exact ⟨h.even, h.len_pos, Nat.mod_lt _ h.len_pos, Nat.zero_le _⟩

theorem inv_run (eq : List F) (ops : List (Op F)) (s : St F) (h : Inv s) : Inv (ops.foldl (step eq) s) := by
  induction ops generalizing s with
  | nil => exact h
  | cons op ops ih =>
    apply ih
    cases op with
    | push f => exact inv_push s f h
    | interp x => exact h
    | reset => exact inv_reset eq s h

theorem inv_replicate (eq : List F) (d : Nat) (hd : 1 ≤ d) :
    Inv (⟨⟨List.replicate (2 * d) eq, 0⟩, 0⟩ : St F) := by
  have hl : (⟨List.replicate (2 * d) eq, 0⟩ : Ring F).len = 2 * d := List.length_replicate
  simp only [Inv, depth, hl]; omega

/-- the three-way `max_depth` of sinc/mod.rs:83-89 is `min(idx + 1, depth)`; with `len = 2·depth` every
    branch is linear in `idx` and `depth` -/
theorem maxDepthI_eq {s : St F} (h : Inv s) : maxDepthI s = min ((s.idx : Int) + 1) (depth s) := by
  have hl := h.len_eq
  have := h.idx_le
  unfold maxDepthI
  simp only [hl]
  split
  · omega
  · split <;> omega

theorem maxDepth_eq {s : St F} (h : Inv s) : maxDepth s = min (s.idx + 1) (depth s) := by
  unfold maxDepth; rw [maxDepthI_eq h]; omega

/-- INDEX SAFETY (sinc/mod.rs:76-89, 96, 108). In a state satisfying the invariant:
    the `usize` subtraction `len - depth` does not underflow; the `isize` value cast by `as usize` is
    non-negative; `max_depth = min(idx + 1, depth) ≥ 1`; for every tap `n < max_depth` the `usize`
    subtraction `nl - n` does not underflow (`n ≤ idx`); and every slice index `(first + i) % len` the
    ring computes is in range. -/
theorem index_safe (s : St F) (h : Inv s) :
    (depth s : Int) ≤ s.ring.len ∧
    (0 : Int) ≤ (depth s : Int) + ((s.idx : Int) + 1 - depth s) ∧
    maxDepthI s = min ((s.idx : Int) + 1) (depth s) ∧ 1 ≤ maxDepthI s ∧
    maxDepth s = min (s.idx + 1) (depth s) ∧
    (∀ n, n < maxDepth s → n ≤ s.idx) ∧
    (∀ i, (s.ring.first + i) % s.ring.len < s.ring.len) := by
  have hl := h.len_eq
  have hpos := h.len_pos
  refine ⟨by omega, by omega, maxDepthI_eq h, ?_, maxDepth_eq h, fun n hn => ?_, fun i => Nat.mod_lt _ hpos⟩
  · rw [maxDepthI_eq h]; omega
  · rw [maxDepth_eq h] at hn; omega

end generic

section exact
variable (sn cs : Rat → Rat) (pi : Rat)

local notation "AR" => ratArith sn cs pi

@[simp] theorem rat_ofNat (n : Nat) : (AR).ofNat n = (n : Rat) := rfl
@[simp] theorem rat_half : (AR).half = 1 / 2 := rfl
@[simp] theorem rat_pi : (AR).pi = pi := rfl
@[simp] theorem rat_sin (a : Rat) : (AR).sin a = sn a := rfl
@[simp] theorem rat_cos (a : Rat) : (AR).cos a = cs a := rfl
@[simp] theorem rat_isZero (a : Rat) : (AR).isZero a = decide (a = 0) := rfl

theorem accum_eq (w : Rat) (v r : List Rat) :
    accum AR w v r = List.zipWith (fun vs x => vs + w * x) v r := rfl

theorem zipWith_accum_add (w : Rat) (a1 a2 r1 r2 : List Rat) :
    List.zipWith (fun vs x => vs + w * x) (List.zipWith (· + ·) a1 a2) (List.zipWith (· + ·) r1 r2) =
      List.zipWith (· + ·) (List.zipWith (fun vs x => vs + w * x) a1 r1)
        (List.zipWith (fun vs x => vs + w * x) a2 r2) := by
  induction a1 generalizing a2 r1 r2 with
  | nil => simp
  | cons x a1 ih =>
    cases a2 with
    | nil => simp
    | cons y a2 =>
      cases r1 with
      | nil => simp
      | cons p r1 =>
        cases r2 with
        | nil => simp
        | cons q r2 =>
          simp only [List.zipWith_cons_cons, ih]
          congr 1; ring

theorem zipWith_accum_smul (w c : Rat) (a r : List Rat) :
    List.zipWith (fun vs x => vs + w * x) (a.map (c * ·)) (r.map (c * ·)) =
      (List.zipWith (fun vs x => vs + w * x) a r).map (c * ·) := by
  rw [List.zipWith_map, List.map_zipWith]
  congr 1; funext x y; ring

theorem accum_id (w : Rat) (v r : List Rat) (hl : v.length ≤ r.length) (h0 : ∀ x ∈ r, w * x = 0) :
    accum AR w v r = v := by
  induction v generalizing r with
  | nil => simp [accum]
  | cons a v ih =>
    cases r with
    | nil => simp at hl
    | cons b r =>
      show (a + w * b) :: accum AR w v r = _
      rw [h0 b (by simp), add_zero, ih r (by simpa using hl) fun x hx => h0 x (by simp [hx])]

theorem tapStep_id (eq : List Rat) (s : St Rat) (x : Rat) (v : List Rat) (n : Nat)
    (hl : ∀ i, v.length ≤ (s.ring.get eq i).length)
    (h1 : ∀ y ∈ s.ring.get eq (s.idx - n), kernel AR (depth s) x n * y = 0)
    (h2 : ∀ y ∈ s.ring.get eq (s.idx + 1 + n), kernel AR (depth s) (1 - x) n * y = 0) :
    tapStep AR eq s x v n = v := by
  show accum AR (kernel AR (depth s) (1 - x) n) (accum AR (kernel AR (depth s) x n) v _) _ = v
  rw [accum_id sn cs pi _ v _ (hl _) h1, accum_id sn cs pi _ v _ (hl _) h2]

/-- frames of `ch` channels everywhere, equilibrium = `ch` zeros -/
def WF (ch : Nat) (eq : List Rat) (s : St Rat) : Prop :=
  eq = List.replicate ch 0 ∧ ∀ f ∈ s.ring.data, f.length = ch

theorem srcAt_length (ch : Nat) (eq : List Rat) (heq : eq.length = ch) (frames : List (List Rat))
    (hfr : ∀ f ∈ frames, f.length = ch) (i : Nat) : (srcAt eq frames i).length = ch := by
  unfold srcAt
  rw [List.getD_eq_getElem?_getD]
  cases hj : frames[i]? with
  | none => exact heq
  | some f => exact hfr f (List.mem_of_getElem? hj)

theorem get_length (ch : Nat) (eq : List Rat) (s : St Rat) (h : WF ch eq s) (i : Nat) :
    (s.ring.get eq i).length = ch :=
  -- `Ring.get` unfolds to `srcAt` of the data at the wrapped index
  srcAt_length ch eq (by rw [h.1, List.length_replicate]) s.ring.data h.2 ((s.ring.first + i) % s.ring.len)

theorem accum_one_zeros (ch : Nat) (r : List Rat) (h : r.length = ch) : accum AR 1 (List.replicate ch 0) r = r := by
  induction ch generalizing r with
  | zero => rw [List.length_eq_zero_iff.mp h]; rfl
  | succ ch ih =>
    cases r with
    | nil => simp at h
    | cons b r =>
      show (0 + 1 * b) :: accum AR 1 _ r = _
      rw [ih r (by simpa using h), zero_add, one_mul]

/-- on the grid, off the centre: the weight of a tap whose argument `phi + n` is an integer `k ≥ 1` is
    `sin(π k)/(π k) · … = 0`; this is every left tap but the first at `x = 0` and every right tap -/
theorem kernel_grid (hpi : pi ≠ 0) (hsin : ∀ k : Nat, 1 ≤ k → sn (pi * (k : Rat)) = 0) (d : Nat) (phi : Rat)
    (n k : Nat) (hk : 1 ≤ k) (h : phi + (n : Rat) = k) : kernel AR d phi n = 0 := by
  have hne : pi * (k : Rat) ≠ 0 := mul_ne_zero hpi (Nat.cast_ne_zero.mpr (Nat.ne_of_gt hk))
  simp only [kernel, rat_mul, rat_add, rat_ofNat, rat_pi, rat_isZero, rat_sin, rat_div, h, hne, decide_false,
    hsin k hk, zero_div, zero_mul, Bool.false_eq_true, if_false]

theorem interpolate_grid (ch : Nat) (eq : List Rat) (s : St Rat) (hinv : Inv s) (hwf : WF ch eq s)
    (k0 : kernel AR (depth s) 0 0 = 1) (kl : ∀ n, 1 ≤ n → kernel AR (depth s) 0 n = 0)
    (kr : ∀ n, kernel AR (depth s) (1 - 0) n = 0) :
    interpolate AR eq s 0 = s.ring.get eq s.idx := by
  obtain ⟨m, hm⟩ : ∃ m, maxDepth s = m + 1 :=
    ⟨maxDepth s - 1, by have := maxDepth_eq hinv; have := hinv.len_eq; have := hinv.len_pos; omega⟩
  have hlen := get_length ch eq s hwf
  have zero : ∀ {w : Rat} (r : List Rat), w = 0 → ∀ y ∈ r, w * y = 0 := fun _ hw y _ => by rw [hw, zero_mul]
  have step0 : tapStep AR eq s 0 eq 0 = s.ring.get eq s.idx := by
    have hin : accum AR 1 eq (s.ring.get eq (s.idx - 0)) = s.ring.get eq s.idx :=
      (congrArg (accum AR 1 · (s.ring.get eq s.idx)) hwf.1).trans (accum_one_zeros sn cs pi ch _ (hlen _))
    show accum AR (kernel AR (depth s) (1 - 0) 0) (accum AR (kernel AR (depth s) 0 0) eq _) _ = _
    rw [k0, hin, accum_id sn cs pi _ _ _ (by rw [hlen, hlen]) (zero _ (kr 0))]
  unfold interpolate
  rw [hm, List.range_succ_eq_map, List.foldl_cons, step0, List.foldl_map]
  exact List.foldl_fixed' (fun n => tapStep_id sn cs pi eq s 0 _ (n + 1) (fun i => by rw [hlen, hlen])
    (zero _ (kl _ (Nat.le_add_left 1 n))) (zero _ (kr _))) _

theorem wf_push (ch : Nat) (eq : List Rat) (s : St Rat) (f : List Rat) (h : WF ch eq s) (hf : f.length = ch) :
    WF ch eq (nextSourceFrame s f) :=
  ⟨h.1, fun g hg => (List.mem_or_eq_of_mem_set hg).elim (h.2 g) (· ▸ hf)⟩

theorem feed_ring (eq : List Rat) (xs : List (List Rat)) (s : St Rat) :
    (feed (sincInterp AR eq) s xs).ring = xs.foldl Ring.push s.ring := by
  induction xs generalizing s with
  | nil => rfl
  | cons x xs ih => exact ih (nextSourceFrame s x)

theorem feed_idx (eq : List Rat) (xs : List (List Rat)) (s : St Rat) (h : Inv s) :
    (feed (sincInterp AR eq) s xs).idx = min (s.idx + xs.length) (depth s) := by
  induction xs generalizing s with
  | nil => exact (Nat.min_eq_left h.idx_le).symm
  | cons x xs ih =>
    refine (ih (nextSourceFrame s x) (inv_push s x h)).trans ?_
    rw [depth_congr (push_len s.ring x), push_idx s x h.idx_le, List.length_cons]; omega

theorem inv_feed (eq : List Rat) (xs : List (List Rat)) (s : St Rat) (h : Inv s) :
    Inv (feed (sincInterp AR eq) s xs) := by
  have := inv_run eq (xs.map .push) s h
  rwa [List.foldl_map] at this

theorem wf_feed (ch : Nat) (eq : List Rat) (xs : List (List Rat)) (hxs : ∀ f ∈ xs, f.length = ch)
    (s : St Rat) (h : WF ch eq s) : WF ch eq (feed (sincInterp AR eq) s xs) := by
  induction xs generalizing s with
  | nil => exact h
  | cons x xs ih =>
    exact ih (fun f hf => hxs f (List.mem_cons_of_mem x hf)) _ (wf_push ch eq s x h (hxs x List.mem_cons_self))

theorem interpolate_silent (ch : Nat) (eq : List Rat) (heq : eq = List.replicate ch 0) (s : St Rat)
    (hall : ∀ i, s.ring.get eq i = eq) (x : Rat) : interpolate AR eq s x = eq := by
  have zero : ∀ w : Rat, ∀ y ∈ eq, w * y = 0 := fun w y hy => by
    rw [heq] at hy; rw [(List.mem_replicate.mp hy).2, mul_zero]
  exact List.foldl_fixed' (fun n => tapStep_id sn cs pi eq s x eq n (fun i => by rw [hall])
    (by rw [hall]; exact zero _) (by rw [hall]; exact zero _)) _

theorem pulled_mem_length (ch : Nat) (eq : List Rat) (heq : eq.length = ch) (frames : List (List Rat))
    (hfr : ∀ f ∈ frames, f.length = ch) (start m : Nat) : ∀ f ∈ pulled eq frames start m, f.length = ch := by
  rw [pulled_eq_map]; exact List.forall_mem_map.mpr fun i _ => srcAt_length ch eq heq frames hfr i

theorem pulled_getD (eq : List Rat) (frames : List (List Rat)) (start m j : Nat) (h : j < m) (d : List Rat) :
    (pulled eq frames start m).getD j d = srcAt eq frames (start + j) :=
  pulled_eq_map eq frames start m ▸ SrcQueue.run_getD _ start m j d h

/-- the frame read after feeding `xs`: the read index has grown to `min (idx + |xs|) depth`, and ring index `i`
    is then position `i + |xs|` of the earlier content followed by `xs` (`pushes_get`) -/
theorem feed_read (eq : List Rat) (xs : List (List Rat)) (s0 : St Rat) (hinv : Inv s0) :
    (feed (sincInterp AR eq) s0 xs).ring.get eq (feed (sincInterp AR eq) s0 xs).idx =
      (s0.ring.toFixed.abs ++ xs)[min (s0.idx + xs.length) (depth s0) + xs.length]?.getD eq := by
  rw [feed_ring, feed_idx sn cs pi eq xs s0 hinv]
  exact pushes_get eq xs s0.ring hinv.first_lt _ (by have := hinv.len_eq; have := hinv.len_pos; omega)

/-- from `2d` equilibrium frames: the frame read after feeding `xs` is equilibrium while `|xs| < d`, then the
    one fed `d` pushes before the end -/
theorem feed_read_replicate (d : Nat) (hd : 1 ≤ d) (eq : List Rat) (xs : List (List Rat)) :
    (feed (sincInterp AR eq) ⟨⟨List.replicate (2 * d) eq, 0⟩, 0⟩ xs).ring.get eq
        (feed (sincInterp AR eq) ⟨⟨List.replicate (2 * d) eq, 0⟩, 0⟩ xs).idx =
      if xs.length < d then eq else xs.getD (xs.length - d) eq := by
  have hdep : depth (⟨⟨List.replicate (2 * d) eq, 0⟩, 0⟩ : St Rat) = d :=
    (congrArg (· / 2) List.length_replicate).trans (Nat.mul_div_cancel_left d Nat.two_pos)
  rw [feed_read sn cs pi eq xs _ (inv_replicate eq d hd), abs_first_zero, hdep, Nat.zero_add, List.getElem?_append,
    List.length_replicate, List.getElem?_replicate]
  -- the read position in `2d` equilibrium frames followed by `xs`: `|xs| + |xs|` while `|xs| < d`, then `d + |xs|`
  by_cases h : xs.length < d
  · rw [if_pos h, Nat.min_eq_left h.le, if_pos (by omega), if_pos (by omega)]; rfl
  · rw [if_neg h, Nat.min_eq_right (not_lt.mp h), if_neg (by omega), show d + xs.length - 2 * d = xs.length - d by omega,
      List.getD_eq_getElem?_getD]

end exact

end Dasp.Sinc
