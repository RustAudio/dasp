import Dasp.Model.Arith
import Mathlib.Algebra.Order.Field.Basic
/-!
# The arithmetic class of the numeric models at an ordered field

`Dasp.Arith` (`Model/Arith.lean`) is what the RMS, rectifier and envelope models compute with.  Two instances at any
linearly ordered field `K` (`ℚ`, `ℝ`): `Dasp.Exact.fieldArith`, the field operations themselves, for the exact theorems;
and `Rounding.rndArith rnd`, every operation followed by one application of `rnd` (the standard model of IEEE arithmetic,
`fl(a ∘ b) = rnd (a ∘ b)`), for the error analyses — what is assumed of `rnd` is in `Lemmas/Rounding.lean`.
In both, `usize as f32` is exact (`N ≤ 2^24`) and comparisons are exact.
-/
set_option linter.unusedSectionVars false

namespace Dasp.Exact

/-- exact arithmetic: every linearly ordered field is an `Arith` (`usize as f32` is exact: `N ≤ 2^24`) -/
scoped instance fieldArith {K : Type} [Field K] [LinearOrder K] [IsStrictOrderedRing K] : Dasp.Arith K where
  zero := 0
  one := 1
  add a b := a + b
  sub a b := a - b
  mul a b := a * b
  div a b := a / b
  neg a := -a
  lt a b := decide (a < b)
  beq a b := decide (a = b)
  ofLen n := (n : K)

end Dasp.Exact

namespace Dasp.Rms.Rounding

variable {K : Type} [Field K] [LinearOrder K] [IsStrictOrderedRing K]

/-- every operation = the exact field operation followed by `rnd`; `usize as f32` is exact
    (`N ≤ 2^24`), comparisons are exact -/
@[reducible] def rndArith (rnd : K → K) : Dasp.Arith K where
  zero := 0
  one := 1
  add a b := rnd (a + b)
  sub a b := rnd (a - b)
  mul a b := rnd (a * b)
  div a b := rnd (a / b)
  neg a := -a
  lt a b := decide (a < b)
  beq a b := decide (a = b)
  ofLen n := (n : K)

end Dasp.Rms.Rounding
