import Dasp.Lemmas.RoundRel
import Dasp.Machine.FConv
import Dasp.Lemmas.Trunc
import Dasp.Machine.ConvTac
/-!
# The float conversions of `Machine/FConv.lean` (`ofInt`, `toInt`, `cvt`, `truncQ`) and the conversion shapes of `conv.rs`

Each operation on finite operands is one `rsm` (`Lemmas/RoundRel.lean`) of the exact result; the shapes
follow by saying when that `rsm` is exact.  `I2FSpec` and `F2ISpec` state what the translator's per-function
obligations (`Gen/ConvFloatThm.lean`) are; each is met by the lemma for the body's shape.
-/
namespace Dasp

theorem cvt_fin (p : FFmt) (n : Bool) {q : ℚ} (h : 0 ≤ q) : cvt p (.fin n q) = rsm p.fmt n q := by
  by_cases hq : q = 0
  · rw [hq, rsm_zero]; simp [cvt]
  · rw [← round_signed _ _ h]; simp only [cvt, sval, hq, if_false]

theorem ofInt_eq (F : Fmt2) (a : ℤ) : ofInt F a = rsm F (decide (a < 0)) |(a : ℚ)| := by
  rw [ofInt, round_eq]
  split_ifs with h
  · obtain rfl : a = 0 := by exact_mod_cast h
    simp [rsm_zero]
  · simp

theorem toInt_fin (t : ITy) (n : Bool) (r : ℚ) : toInt t (.fin n r) =
    if truncQ (sval n r) < t.lo then t.lo else if truncQ (sval n r) > t.hi then t.hi else truncQ (sval n r) := rfl

/-! ## integer → float: `(a as fN) / 2^k.0` is one correct rounding of `a / 2^k` -/

/-- the correctly rounded quotient `a / 2^k` as a float value (`+0.0` for `a = 0`) -/
def specI2F (F : Fmt2) (a : ℤ) (k : ℕ) : FP :=
  if a = 0 then .fin false 0 else .fin (decide (a < 0)) (rv F (|(a : ℚ)| / pow2 k))

theorem specI2F_eq (F : Fmt2) (a : ℤ) (k : ℕ) :
    specI2F F a k = .fin (decide (a < 0)) (rv F (|(a : ℚ)| / pow2 k)) := by
  unfold specI2F; split_ifs with h
  · subst h; simp [rv_zero]
  · rfl

theorem i2f_shape (F : Fmt2) (hp : 1 ≤ F.prec) (a : ℤ) (k : ℕ)
    (hnorm : F.emin + k + F.prec ≤ 0) (hk : (k : ℤ) ≤ F.emax) (hb : |a| ≤ 2 ^ k) :
    div F (ofInt F a) (.fin false ((2 : ℚ) ^ k)) = specI2F F a k := by
  have hk0 := pow2_pos k
  have hb := abs_cast_le_pow2 hb
  have h1 := rv_le_pow2_of_emin_le F hp (abs_nonneg (a : ℚ)) (by omega) hb
  have h2 : 0 ≤ rv F |(a : ℚ)| / pow2 k := div_nonneg (rv_nonneg F (abs_nonneg _)) hk0.le
  -- neither the cast (at most `2^k`) nor the quotient (at most 1) overflows
  rw [ofInt_eq, rsm_of_le_pow2 F hp _ (abs_nonneg _) (by omega) hk hb, ← pow2_nat, div_fin F _ _ hk0.ne' h2,
    Bool.bne_false, rsm_of_le_pow2 F hp _ h2 (k := 0) (by omega) (by omega) (by rwa [pow2_zero, div_le_one hk0]),
    specI2F_eq]
  -- and the two roundings are one
  congr 1
  rcases eq_or_ne a 0 with rfl | ha
  · rw [Int.cast_zero, abs_zero, rv_zero]
  · exact i2fPos_correct F hp (by exact_mod_cast Int.one_le_abs ha) k (by omega) hnorm

/-- `i2f_shape` for the multiply-by-reciprocal spelling `(a as fN) * 2^-k` -/
theorem i2fm_shape (F : Fmt2) (hp : 1 ≤ F.prec) (a : ℤ) (k : ℕ)
    (hnorm : F.emin + k + F.prec ≤ 0) (hk : (k : ℤ) ≤ F.emax) (hb : |a| ≤ 2 ^ k) :
    mul F (ofInt F a) (.fin false (((2 : ℚ) ^ k)⁻¹)) = specI2F F a k := by
  rw [mul_inv_eq_div F _ _ (by positivity)]; exact i2f_shape F hp a k hnorm hk hb

/-! ## float → integer: `(x * 2^k.0) as iN` is `trunc (x · 2^k)` on the documented domain -/

/-- a finite float value `(-1)^n · q` that is representable in `F` and lies in `[-1, 1)` -/
def InDomain (F : Fmt2) (n : Bool) (q : ℚ) : Prop :=
  (q = 0 ∨ (0 < q ∧ onGrid F q)) ∧ (if n then q ≤ 1 else q < 1)

theorem InDomain.bounds {F : Fmt2} {n : Bool} {q : ℚ} (hd : InDomain F n q) :
    0 ≤ q ∧ onGrid F q ∧ q ≤ 1 ∧ -1 ≤ sval n q ∧ sval n q < 1 := by
  obtain ⟨hrep, hmag⟩ := hd
  have hq0 : 0 ≤ q := by rcases hrep with h | h; exacts [h.ge, h.1.le]
  have hg : onGrid F q := by rcases hrep with rfl | h; exacts [onGrid_zero F, h.2]
  cases n <;> simp only [sval, if_true, Bool.false_eq_true, if_false] at hmag ⊢
  · exact ⟨hq0, hg, hmag.le, by linarith, hmag⟩
  · exact ⟨hq0, hg, hmag, by linarith, by linarith⟩

theorem f2i_shape (F : Fmt2) (n : Bool) (q : ℚ) (k : ℕ) (t : ITy)
    (hd : InDomain F n q) (hk : (k : ℤ) ≤ F.emax) (hlo : t.lo ≤ -(2 : ℤ) ^ k) (hhi : (2 : ℤ) ^ k - 1 ≤ t.hi) :
    toInt t (mul F (.fin n q) (.fin false ((2 : ℚ) ^ k))) = truncQ (sval n q * 2 ^ k)
    ∧ -(2 : ℤ) ^ k ≤ truncQ (sval n q * 2 ^ k) ∧ truncQ (sval n q * 2 ^ k) ≤ (2 : ℤ) ^ k - 1 := by
  obtain ⟨hq0, hg, hq1, hl, hu⟩ := hd.bounds
  have hk0 : (0 : ℚ) < 2 ^ k := by positivity
  -- the truncated product lies between the images of −1 and 1
  have h1 : -(2 : ℤ) ^ k ≤ truncQ (sval n q * 2 ^ k) :=
    le_truncQ (by push_cast; rw [← neg_one_mul]; exact mul_le_mul_of_nonneg_right hl hk0.le)
  have h2 : truncQ (sval n q * 2 ^ k) < (2 : ℤ) ^ k :=
    truncQ_lt (by positivity) (by push_cast; exact mul_lt_of_lt_one_left hk0 hu)
  rw [mul_pow2_fin F n hq0 hq1 hg k hk, toInt_fin, sval_mul, if_neg (by omega), if_neg (by omega)]
  exact ⟨rfl, h1, by omega⟩

/-- rational value of a finite float (0 for inf/NaN, which never occur in the statements below) -/
def fpVal : FP → ℚ
  | .fin n q => sval n q
  | _ => 0

theorem fpVal_specI2F (F : Fmt2) (a : ℤ) (k : ℕ) : fpVal (specI2F F a k) = rs F ((a : ℚ) / pow2 k) := by
  have hk := pow2_pos (k : ℤ)
  rw [specI2F_eq, rs_eq_sval, abs_div, abs_of_pos hk, fpVal]
  congr 2
  simp [div_neg_iff, hk, not_lt.mpr hk.le]

theorem abs_div_pow2_unit {a : ℤ} {k : ℕ} (hb : |a| ≤ 2 ^ k) : 0 ≤ |(a : ℚ)| / pow2 k ∧ |(a : ℚ)| / pow2 k ≤ 1 :=
  ⟨div_nonneg (abs_nonneg _) (pow2_pos _).le, (div_le_one (pow2_pos _)).mpr (abs_cast_le_pow2 hb)⟩

theorem specI2F_range (F : Fmt2) (hp : 1 ≤ F.prec) (hemin : F.emin ≤ 0) (a : ℤ) (k : ℕ) (hb : |a| ≤ 2 ^ k) :
    -1 ≤ fpVal (specI2F F a k) ∧ fpVal (specI2F F a k) ≤ 1 := by
  obtain ⟨hq0, hq1⟩ := abs_div_pow2_unit hb
  rw [specI2F_eq, fpVal, ← abs_le, abs_sval, abs_of_nonneg (rv_nonneg F hq0)]; exact rv_le_one F hp hemin hq0 hq1

theorem specI2F_mono (F : Fmt2) (hp : 1 ≤ F.prec) (a b : ℤ) (k : ℕ) (h : a ≤ b) :
    fpVal (specI2F F a k) ≤ fpVal (specI2F F b k) := by
  rw [fpVal_specI2F, fpVal_specI2F]
  exact rs_mono F hp (div_le_div_of_nonneg_right (by exact_mod_cast h) (pow2_pos _).le)

theorem specI2F_exact (F : Fmt2) (hp : 1 ≤ F.prec) (a : ℤ) (k : ℕ) (hb : |a| ≤ 2 ^ k)
    (hfit : k + 1 ≤ F.prec) (hk : F.emin ≤ -(k : ℤ)) :
    specI2F F a k = .fin (decide (a < 0)) (|(a : ℚ)| / pow2 k) := by
  rw [specI2F_eq, rv_id F (onGrid_abs_scaled F hp hb hfit hk)]

theorem specI2F_exact_val (F : Fmt2) (hp : 1 ≤ F.prec) (a : ℤ) (k : ℕ) (hb : |a| ≤ 2 ^ k)
    (hfit : k + 1 ≤ F.prec) (hk : F.emin ≤ -(k : ℤ)) :
    fpVal (specI2F F a k) = (a : ℚ) / 2 ^ k := by
  rw [specI2F_exact F hp a k hb hfit hk, fpVal, div_eq_mul_inv, sval_mul, sval_decide_abs, pow2_nat, div_eq_mul_inv]

/-- `× 1.0` changes no converted sample: it is representable and at most 1 in magnitude -/
theorem specI2F_mul_one (F : Fmt2) (hp : 1 ≤ F.prec) (hemin : F.emin ≤ 0) (hemax : 0 ≤ F.emax) (a : ℤ) (k : ℕ)
    (hb : |a| ≤ 2 ^ k) : mul F (specI2F F a k) (.fin false 1) = specI2F F a k := by
  obtain ⟨hq0, hq1⟩ := abs_div_pow2_unit hb
  rw [specI2F_eq]
  exact mul_one_rep F _ (rv_nonneg F hq0) (rv_onGrid_nonneg F hp hq0)
    ((rv_le_one F hp hemin hq0 hq1).trans_lt (by rw [← pow2_zero]; exact pow2_lt (by omega)))

theorem f2i_inverts_exact (F : Fmt2) (hp : 1 ≤ F.prec) (a : ℤ) (k : ℕ)
    (hlo : -(2 : ℤ) ^ k ≤ a) (hhi : a ≤ 2 ^ k - 1) (hfit : k + 1 ≤ F.prec) (hk : F.emin ≤ -(k : ℤ)) :
    ∃ n q, specI2F F a k = .fin n q ∧ InDomain F n q ∧ truncQ (sval n q * 2 ^ k) = a := by
  have hb : |a| ≤ 2 ^ k := abs_le.mpr ⟨hlo, by omega⟩
  have hk0 : (0 : ℚ) < pow2 k := pow2_pos _
  refine ⟨_, _, specI2F_exact F hp a k hb hfit hk, ⟨?_, ?_⟩, ?_⟩
  · rcases (abs_div_pow2_unit hb).1.eq_or_lt with h | h
    · exact Or.inl h.symm
    · exact Or.inr ⟨h, onGrid_abs_scaled F hp hb hfit hk⟩
  · by_cases hn : a < 0
    · simp only [hn, decide_true, if_true]
      exact (abs_div_pow2_unit hb).2
    · simp only [hn, decide_false, Bool.false_eq_true, if_false]
      rw [div_lt_one hk0, pow2_nat, abs_of_nonneg (by exact_mod_cast (show 0 ≤ a by omega))]
      exact_mod_cast (show a < 2 ^ k by omega)
  · rw [← sval_mul, ← pow2_nat, div_mul_cancel₀ _ hk0.ne', sval_decide_abs, truncQ_int]

/-! ## integer → float → integer when the integer format is wider than the mantissa -/

theorem toInt_near (t : ITy) (n : Bool) (q : ℚ) {a E : ℤ} (hlo : t.lo ≤ a) (hhi : a ≤ t.hi) (h : |sval n q - a| ≤ E) :
    t.lo ≤ toInt t (.fin n q) ∧ toInt t (.fin n q) ≤ t.hi ∧ |toInt t (.fin n q) - a| ≤ E := by
  have := abs_le.mp (truncQ_near h)
  rw [toInt_fin, abs_le]
  split_ifs <;> omega

/-- value → float → ×2^k → integer: within `2^(k−prec)` of the value, and in the range of the cast -/
theorem i2f_f2i_near (F : Fmt2) (hp : 1 ≤ F.prec) (a : ℤ) (k : ℕ) (t : ITy)
    (hk : (k : ℤ) ≤ F.emax) (hemin2 : F.emin ≤ 1 - (F.prec : ℤ)) (hpk : F.prec ≤ k)
    (hlo : t.lo ≤ a) (hhi : a ≤ t.hi) (hb : |a| ≤ 2 ^ k) :
    ∃ r : ℤ, toInt t (mul F (specI2F F a k) (.fin false ((2 : ℚ) ^ k))) = r ∧
      t.lo ≤ r ∧ r ≤ t.hi ∧ |r - a| ≤ 2 ^ (k - F.prec) := by
  have hk0 : (0 : ℚ) < pow2 k := pow2_pos _
  obtain ⟨hq0, hq1⟩ := abs_div_pow2_unit hb
  set q := |(a : ℚ)| / pow2 k with hq
  -- the multiplication is exact
  rw [specI2F_eq, ← hq,
    mul_pow2_fin F _ (rv_nonneg F hq0) (rv_le_one F hp (by omega) hq0 hq1) (rv_onGrid_nonneg F hp hq0) k hk]
  -- and the value handed to the cast is within `2^(k − prec)` of `a`
  refine ⟨_, rfl, toInt_near t _ _ hlo hhi ?_⟩
  have ha : sval (decide (a < 0)) (q * 2 ^ k) = (a : ℚ) := by
    rw [hq, ← pow2_nat, div_mul_cancel₀ _ hk0.ne', sval_decide_abs]
  rw [← ha, sval_sub, abs_sval, ← sub_mul, abs_mul, abs_of_pos (show (0 : ℚ) < 2 ^ k by positivity)]
  have e : ((2 ^ (k - F.prec) : ℤ) : ℚ) = pow2 (-(F.prec : ℤ)) * 2 ^ k := by
    rw [← pow2_nat, ← pow2_add]; push_cast; rw [← pow2_nat]; congr 1; omega
  rw [e]; exact mul_le_mul_of_nonneg_right (rv_err_le_one F hemin2 hq0 hq1) (by positivity)

/-! ## the translator's obligations

One theorem per float-involving function of `conv.rs` is printed into `Gen/ConvFloatThm.lean`; it says that the
function's body meets `I2FSpec` resp. `F2ISpec`, and is closed by the lemma for the body's shape. -/

theorem Fmt.amp_abs {s : Fmt} {v : ℤ} (h : s.inRange v) : |v - s.off| ≤ 2 ^ (s.bits - 1) := by
  have := Fmt.amp_bound h
  exact abs_le.mpr ⟨this.1, by omega⟩

/-- both float formats have room for every sample width (`k = bits − 1 ≤ 63` is `Fmt.bits_pred_le`): no subnormals, no overflow -/
theorem FFmt.room (p : FFmt) {k : ℕ} (hk : k ≤ 63) :
    1 ≤ p.fmt.prec ∧ p.fmt.emin + k + p.fmt.prec ≤ 0 ∧ (k : ℤ) ≤ p.fmt.emax := by
  cases p <;> simp only [FFmt.fmt, Dasp.f32, Dasp.f64] <;> omega

/-- `f` converts samples of the integer format `s` to the float format `p`: the signed amplitude over
    `2^(bits−1)`, rounded once -/
def I2FSpec (s : Fmt) (p : FFmt) (f : FConv) : Prop :=
  ∀ v, s.inRange v → f.i2fVal v = specI2F p.fmt (v - s.off) (s.bits - 1)

/-- `(pre(s) as fP) / 2^(bits−1)` where `pre` computes the signed amplitude -/
theorem I2FSpec.i2f {s : Fmt} {pre : Expr} (t : ITy) (p : FFmt)
    (hpre : ∀ v, s.inRange v → val v pre = v - s.off) : I2FSpec s p (.i2f pre t p (s.bits - 1)) := by
  intro v h
  obtain ⟨hp, hn, hk⟩ := p.room s.bits_pred_le
  show div p.fmt (ofInt p.fmt (val v pre)) _ = _
  rw [hpre v h]; exact i2f_shape p.fmt hp _ _ hn hk (Fmt.amp_abs h)

/-- `(pre(s) as fP) * 2^-(bits−1)` -/
theorem I2FSpec.i2fm {s : Fmt} {pre : Expr} (t : ITy) (p : FFmt)
    (hpre : ∀ v, s.inRange v → val v pre = v - s.off) : I2FSpec s p (.i2fm pre t p (s.bits - 1)) :=
  fun v h => (mul_inv_eq_div _ _ _ (by positivity)).trans (I2FSpec.i2f t p hpre v h)

/-- `iM::to_fP(to_iM(s))` through the signed format of the same width -/
theorem I2FSpec.viaInt {s m : Fmt} {p : FFmt} {g : Expr} {f : FConv} (hf : I2FSpec m p f) (hg : ConvSpec s m g)
    (hm : m.off = 0) (hb : s.bits = m.bits) : I2FSpec s p (.viaInt (.call g .var) f) := by
  intro v h
  show f.i2fVal (val v g) = _
  rw [(hg v h).2.2]
  have := hf _ (specConv_inRange s m h)
  rw [hm, sub_zero, ← hb] at this
  rw [this, specConv_same_bits hb, hm, add_zero]

/-- `f` converts floats of format `p` to the integer format `d` through the machine type `t`:
    `(x * 2^(bits−1)) as t`, re-offset, whenever the cast lands in the signed range of `d`'s width -/
def F2ISpec (p : FFmt) (d : Fmt) (t : ITy) (f : FConv) : Prop :=
  (t.lo ≤ -(2 : ℤ) ^ (d.bits - 1) ∧ (2 : ℤ) ^ (d.bits - 1) - 1 ≤ t.hi) ∧
  ∀ x r, toInt t (mul p.fmt x (.fin false ((2 : ℚ) ^ (d.bits - 1)))) = r →
    -(2 : ℤ) ^ (d.bits - 1) ≤ r → r ≤ 2 ^ (d.bits - 1) - 1 → f.f2iVal x = r + d.off

/-- `post((x * 2^(bits−1)) as t)` for a signed format, `post` an unchecked constructor or nothing -/
theorem F2ISpec.f2i {d : Fmt} (hd : d.off = 0) (p : FFmt) {t : ITy} {post : Expr} (hpost : ∀ x, val x post = x)
    (ht : t.lo ≤ -(2 : ℤ) ^ (d.bits - 1) ∧ (2 : ℤ) ^ (d.bits - 1) - 1 ≤ t.hi) :
    F2ISpec p d t (.f2i p (d.bits - 1) t post) := by
  refine ⟨ht, fun x r hr _ _ => ?_⟩
  show val (toInt t _) post = _
  rw [hpost, hr, hd, add_zero]

/-- `iM::to_uD(to_iM(x))` through the signed format of the same width -/
theorem F2ISpec.thenInt {p : FFmt} {m d : Fmt} {t : ITy} {f : FConv} {g : Expr} (hf : F2ISpec p m t f)
    (hg : ConvSpec m d g) (hm : m.off = 0) (hb : m.bits = d.bits) : F2ISpec p d t (.thenInt f g) := by
  refine ⟨hb ▸ hf.1, fun x r hr h1 h2 => ?_⟩
  have hr' : m.inRange r := by
    have := m.lo_sub_off; have := m.hi_sub_off; rw [← hb] at h1 h2
    constructor <;> omega
  show val (f.f2iVal x) g = _
  rw [hf.2 x r (hb ▸ hr) (hb ▸ h1) (hb ▸ h2), hm, add_zero, (hg r hr').2.2, specConv_same_bits hb, hm, sub_zero]

/-- on the documented domain the cast neither saturates nor loses anything but the fraction -/
theorem F2ISpec.inDomain {p : FFmt} {d : Fmt} {t : ITy} {f : FConv} (hf : F2ISpec p d t f) {n : Bool} {q : ℚ}
    (hd : InDomain p.fmt n q) :
    f.f2iVal (.fin n q) = truncQ (sval n q * 2 ^ (d.bits - 1)) + d.off ∧ d.inRange (f.f2iVal (.fin n q)) := by
  obtain ⟨e, h1, h2⟩ := f2i_shape p.fmt n q (d.bits - 1) t hd (p.room d.bits_pred_le).2.2 hf.1.1 hf.1.2
  have := d.lo_sub_off; have := d.hi_sub_off
  rw [hf.2 _ _ e h1 h2]
  exact ⟨rfl, by omega, by omega⟩

/-- the machine integer type the float → integer conversions of `conv.rs` cast to -/
def Fmt.carrier : Fmt → ITy
  | .i8 | .u8 => .i8 | .i16 | .u16 => .i16 | .i24 | .u24 | .i32 | .u32 => .i32 | .i48 | .u48 | .i64 | .u64 => .i64

end Dasp
