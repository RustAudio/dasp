import Dasp.Model.Converter
import Dasp.Lemmas.Trunc
import Mathlib.Algebra.Order.Floor.Ring
import Mathlib.Algebra.Order.Floor.Semiring
import Mathlib.Data.Rat.Floor
import Mathlib.Tactic.Linarith
import Mathlib.Tactic.Ring
import Mathlib.Tactic.Positivity
/-!
# Rate converter in exact arithmetic (helper lemmas for C08)

The notions C08's theorems are stated in are defined here: `pulled eq frames p0 k`, the source frames
`p0 … p0+k-1` in order; `feed ip ist fs`, the interpolator after `next_source_frame` on each of `fs`;
`posAt rs n = P_n`, the position of output `n`; `Tracks`; `Exh`.

`Tracks c P k`: the converter state `c` sits at source position `P` having pulled `k` frames beyond
the interpolator's priming: the source cursor is `p0 + k`, the interpolator has been fed exactly the
source frames `p0 … p0+k-1` in order (`feed … (pulled … p0 k)`), and the accumulator is `P − k ≥ 0`.
One output at ratio `r` from such a state pulls up to `⌊P⌋` frames (the loop keeps `Tracks` at `P` while `k`
grows: `Tracks.pull`, `advance_spec`), evaluates the interpolator at `P − ⌊P⌋` (`Tracks.obs`) and re-establishes
`Tracks` at `P + r` (`Tracks.step`); `run_take_tracks` carries this over
the first `n` outputs of a run, and every statement about a run reads it off the state reached there.
`Exh` is the arithmetic form of `is_exhausted()` at a constant ratio; `exh_ceil` locates its first
occurrence.
-/
namespace Dasp.Conv

variable {S I : Type}

/-- the interpolator state after `next_source_frame` has been called with `fs` in turn -/
def feed (ip : Interp Rat S I) (ist : I) (fs : List (List S)) : I := fs.foldl ip.push ist

/-- the `m` source frames at positions `start, start+1, …, start+m-1` (equilibrium past the end) -/
def pulled (eq : List S) (frames : List (List S)) (start : Nat) : Nat → List (List S)
  | 0 => []
  | m + 1 => srcAt eq frames start :: pulled eq frames (start + 1) m

theorem pulled_eq_map (eq : List S) (frames : List (List S)) (start m : Nat) :
    pulled eq frames start m = (List.range' start m).map (srcAt eq frames) := by
  induction m generalizing start with
  | zero => rfl
  | succ m ih => rw [pulled, ih, List.range'_succ, List.map_cons]

theorem pulled_length (eq : List S) (frames : List (List S)) (start m : Nat) :
    (pulled eq frames start m).length = m := by
  rw [pulled_eq_map, List.length_map, List.length_range']

theorem pulled_getElem (eq : List S) (frames : List (List S)) (start m j : Nat) (h : j < m) :
    (pulled eq frames start m)[j]'(by rw [pulled_length]; exact h) = srcAt eq frames (start + j) := by
  simp only [pulled_eq_map, List.getElem_map, List.getElem_range', Nat.one_mul]

theorem pulled_add (eq : List S) (frames : List (List S)) (start a b : Nat) :
    pulled eq frames start (a + b) = pulled eq frames start a ++ pulled eq frames (start + a) b := by
  simp only [pulled_eq_map, ← List.map_append, List.range'_append_1]

theorem feed_append (ip : Interp Rat S I) (ist : I) (a b : List (List S)) :
    feed ip ist (a ++ b) = feed ip (feed ip ist a) b := List.foldl_append

theorem run_length (A : Arith Rat) (ip : Interp Rat S I) (eq : List S) (rs : List Rat) (c : St Rat S I) :
    (run A ip eq rs c).1.length = rs.length := by
  induction rs generalizing c with
  | nil => rfl
  | cons r rs ih => simp [run, ih]

theorem countUntil_eq {F : Type} (A : Arith F) (ip : Interp F S I) (eq : List S) (fuel : Nat) (m : Nat)
    (c : St F S I) (hm : m ≤ fuel) (hlt : ∀ j, j < m → isExhausted A (iter A ip eq j c) = false)
    (hex : isExhausted A (iter A ip eq m c) = true) : countUntil A ip eq fuel c = m := by
  induction m generalizing fuel c with
  | zero => cases fuel <;> simp only [countUntil, show isExhausted A c = true from hex, if_true]
  | succ m ih =>
    obtain ⟨fuel, rfl⟩ := Nat.exists_eq_succ_of_ne_zero (Nat.ne_zero_of_lt hm)
    rw [countUntil, show isExhausted A c = false from hlt 0 (Nat.succ_pos m), if_neg Bool.false_ne_true,
      ih fuel _ (Nat.le_of_succ_le_succ hm) (fun j hj => hlt (j + 1) (Nat.succ_lt_succ hj)) hex, Nat.add_comm]

section generic
variable {F : Type} (A : Arith F) (ip : Interp F S I) (eq : List S)

theorem run_step (rs : List F) (c : St F S I) (n : Nat) (hn : n < rs.length) :
    (run A ip eq rs c).1[n]? =
      some (stepObs A ip eq (setPlaybackHzScale (run A ip eq (rs.take n) c).2 rs[n])).1 ∧
    (run A ip eq (rs.take (n + 1)) c).2 =
      (stepObs A ip eq (setPlaybackHzScale (run A ip eq (rs.take n) c).2 rs[n])).2 := by
  induction rs generalizing c n with
  | nil => exact absurd hn (Nat.not_lt_zero n)
  | cons r rs ih =>
    cases n with
    | zero => exact ⟨rfl, rfl⟩
    | succ n => exact ih _ n (Nat.lt_of_succ_lt_succ hn)

theorem advance_ratio (k : Nat) (c : St F S I) : (advance A ip eq k c).ratio = c.ratio := by
  induction k generalizing c with
  | zero => rfl
  | succ k ih => rw [advance]; split <;> simp [ih]

theorem iter_eq_run (n : Nat) (c : St F S I) :
    iter A ip eq n c = (run A ip eq (List.replicate n c.ratio) c).2 := by
  induction n generalizing c with
  | zero => rfl
  | succ n ih =>
    have e : (next A ip eq c).2.ratio = c.ratio := advance_ratio A ip eq _ c
    rw [iter, ih, e, List.replicate_succ, run]; rfl

end generic

/-- `P_n = r_0 + … + r_(n-1)` -/
def posAt (rs : List Rat) (n : Nat) : Rat := (rs.take n).sum

theorem posAt_nonneg (rs : List Rat) (hrs : ∀ r ∈ rs, 0 ≤ r) (n : Nat) : 0 ≤ posAt rs n :=
  List.sum_nonneg fun x hx => hrs x (List.mem_of_mem_take hx)

theorem posAt_succ (rs : List Rat) (n : Nat) (hn : n < rs.length) : posAt rs (n + 1) = posAt rs n + rs[n] := by
  simp [posAt, List.sum_take_succ _ _ hn]

theorem posAt_replicate (r : Rat) (m n : Nat) (h : n ≤ m) : posAt (List.replicate m r) n = n * r := by
  simp [posAt, List.take_replicate, Nat.min_eq_left h]

theorem replicate_nonneg (m : Nat) {r : Rat} (hr : 0 ≤ r) : ∀ x ∈ List.replicate m r, 0 ≤ x :=
  fun _ hx => List.eq_of_mem_replicate hx ▸ hr

theorem floor_toNat_cast (P : Rat) (h : 0 ≤ P) : ((⌊P⌋.toNat : Nat) : Rat) = (⌊P⌋ : Rat) := by
  rw [← Int.cast_natCast, Int.toNat_of_nonneg (Int.floor_nonneg.mpr h)]

theorem one_le_sub_floor_iff (P Q : Rat) : 1 ≤ P - (⌊Q⌋ : Rat) ↔ ⌊Q⌋ < ⌊P⌋ := by
  rw [Int.lt_iff_add_one_le, Int.le_floor]; push_cast; constructor <;> intro h <;> linarith

theorem succ_mul_cast (r : Rat) (m : Nat) : ((m + 1 : Nat) : Rat) * r = (m : Rat) * r + r := by
  rw [Nat.cast_succ, add_one_mul]

section
variable (sn cs : Rat → Rat) (pi : Rat)

local notation "AR" => ratArith sn cs pi

@[simp] theorem rat_ge (a b : Rat) : (AR).ge a b = decide (b ≤ a) := rfl
@[simp] theorem rat_gt (a b : Rat) : (AR).gt a b = decide (b < a) := rfl
@[simp] theorem rat_one : (AR).one = 1 := rfl
@[simp] theorem rat_zero : (AR).zero = 0 := rfl
@[simp] theorem rat_add (a b : Rat) : (AR).add a b = a + b := rfl
@[simp] theorem rat_sub (a b : Rat) : (AR).sub a b = a - b := rfl
@[simp] theorem rat_mul (a b : Rat) : (AR).mul a b = a * b := rfl
@[simp] theorem rat_div (a b : Rat) : (AR).div a b = a / b := rfl
@[simp] theorem rat_fuel (a : Rat) : (AR).fuel a = ⌊a⌋.toNat := rfl

/-- `c` sits at exact source position `P`, having pulled `k` frames beyond the priming: cursor at
    `p0 + k`, interpolator fed exactly frames `p0 … p0+k-1` in order, accumulator `P − k ≥ 0` -/
structure Tracks (ip : Interp Rat S I) (eq : List S) (frames : List (List S)) (p0 : Nat) (ist0 : I)
    (c : St Rat S I) (P : Rat) (k : Nat) : Prop where
  frames_eq : c.src.frames = frames
  pos_eq : c.src.pos = p0 + k
  ist_eq : c.ist = feed ip ist0 (pulled eq frames p0 k)
  iv_eq : c.iv = P - (k : Rat)
  le : (k : Rat) ≤ P

theorem Tracks.init (ip : Interp Rat S I) (eq : List S) (frames : List (List S)) (p0 : Nat) (ist0 : I)
    (ratio : Rat) : Tracks ip eq frames p0 ist0 ⟨⟨frames, p0⟩, ist0, 0, ratio⟩ 0 0 :=
  ⟨rfl, rfl, rfl, by simp, by simp⟩

theorem Tracks.setRatio {ip : Interp Rat S I} {eq : List S} {frames : List (List S)} {p0 : Nat} {ist0 : I}
    {c : St Rat S I} {P : Rat} {k : Nat} (h : Tracks ip eq frames p0 ist0 c P k) (r : Rat) :
    Tracks ip eq frames p0 ist0 (setPlaybackHzScale c r) P k :=
  ⟨h.frames_eq, h.pos_eq, h.ist_eq, h.iv_eq, h.le⟩

section
variable {ip : Interp Rat S I} {eq : List S} {frames : List (List S)} {p0 : Nat} {ist0 : I}
  {c : St Rat S I} {P : Rat} {k : Nat}

theorem Tracks.src_eq (h : Tracks ip eq frames p0 ist0 c P k) : c.src = ⟨frames, p0 + k⟩ := by
  rw [← h.frames_eq, ← h.pos_eq]

theorem Tracks.isExhausted_iff (h : Tracks ip eq frames p0 ist0 c P k) :
    isExhausted AR c = true ↔ frames.length ≤ p0 + k ∧ 1 ≤ P - (k : Rat) := by
  simp only [isExhausted, Src.exhausted, rat_ge, rat_one, h.frames_eq, h.pos_eq, h.iv_eq,
    Bool.and_eq_true, decide_eq_true_eq]

/-- one turn of the loop of `Converter::next`: one more frame pulled, at the same position -/
theorem Tracks.pull (h : Tracks ip eq frames p0 ist0 c P k) (h1 : 1 ≤ c.iv) :
    Tracks ip eq frames p0 ist0
      { c with src := (c.src.next eq).2, ist := ip.push c.ist (c.src.next eq).1, iv := c.iv - 1 } P (k + 1) where
  frames_eq := h.frames_eq
  pos_eq := congrArg (· + 1) h.pos_eq
  ist_eq := by rw [pulled_add, feed_append, ← h.ist_eq, ← h.frames_eq, ← h.pos_eq]; rfl
  iv_eq := by rw [h.iv_eq, Nat.cast_succ, sub_add_eq_sub_sub]
  le := by rw [Nat.cast_succ]; linarith [h.iv_eq]

/-- the loop of `Converter::next` in exact arithmetic stays at its position `P` and stops when `⌊P⌋`
    frames have been pulled, which leaves `iv = P − ⌊P⌋`; any fuel `≥ ⌊iv⌋` suffices -/
theorem advance_spec (h : Tracks ip eq frames p0 ist0 c P k) (fuel : Nat) (hf : ⌊c.iv⌋.toNat ≤ fuel) :
    Tracks ip eq frames p0 ist0 (advance AR ip eq fuel c) P ⌊P⌋.toNat := by
  have hk : (k : Int) ≤ ⌊P⌋ := Int.le_floor.mpr (by exact_mod_cast h.le)
  rw [h.iv_eq, Int.floor_sub_natCast] at hf
  replace hf : ⌊P⌋.toNat ≤ k + fuel := by omega
  induction fuel generalizing c k with
  | zero => rwa [show ⌊P⌋.toNat = k by omega]
  | succ fuel ih =>
    rw [advance]
    by_cases h1 : (1 : Rat) ≤ c.iv
    · have h' := h.pull h1
      simp only [rat_ge, rat_one, h1, decide_true, if_true, rat_sub]
      exact ih h' (Int.le_floor.mpr (by exact_mod_cast h'.le)) (by omega)
    · have : ⌊P⌋ < (k : Int) + 1 := Int.floor_lt.mpr (by push_cast; linarith [h.iv_eq])
      simp only [rat_ge, rat_one, h1, decide_false]
      rwa [show ⌊P⌋.toNat = k by omega]

/-- what one output from a tracked state shows: the interpolator fed up to `⌊P⌋` and evaluated at `P − ⌊P⌋`,
    `p0 + ⌊P⌋` pulls, the loop finished within its fuel -/
theorem Tracks.obs (h : Tracks ip eq frames p0 ist0 c P k) :
    (stepObs AR ip eq c).1 =
      ⟨isExhausted AR c, ip.eval (feed ip ist0 (pulled eq frames p0 ⌊P⌋.toNat)) (P - (⌊P⌋ : Rat)),
       p0 + ⌊P⌋.toNat, false⟩ := by
  have ha := advance_spec sn cs pi h ((AR).fuel c.iv) le_rfl
  have hiv := ha.iv_eq
  rw [floor_toNat_cast P (le_trans (by positivity) h.le)] at hiv
  have hlt : ¬ 1 ≤ P - (⌊P⌋ : Rat) := not_le.mpr (Int.fract_lt_one P)
  simp only [stepObs, next, rat_ge, rat_one, ha.ist_eq, hiv, ha.pos_eq, hlt, decide_false]

/-- … and the state it leaves tracks `P + ratio`, the pulls being those of this output -/
theorem Tracks.step (h : Tracks ip eq frames p0 ist0 c P k) (hr : 0 ≤ c.ratio) :
    Tracks ip eq frames p0 ist0 (stepObs AR ip eq c).2 (P + c.ratio) ⌊P⌋.toNat := by
  have ha := advance_spec sn cs pi h ((AR).fuel c.iv) le_rfl
  exact ⟨ha.frames_eq, ha.pos_eq, ha.ist_eq,
    by show _ + _ = _; rw [ha.iv_eq, advance_ratio]; exact sub_add_eq_add_sub _ _ _, le_add_of_le_of_nonneg ha.le hr⟩

end

/-- THE INVARIANT over a run: after `n + 1` outputs at ratios `rs` (all `≥ 0`; `rs[j]` is set just before
    output `j`) from a state tracking `P`, the state tracks `P + P_(n+1)`, and the pulls made so far are those
    of the last output, `⌊P + P_n⌋`: the pulls for a position are made by the *next* output, none in advance -/
theorem run_take_tracks {ip : Interp Rat S I} {eq : List S} {frames : List (List S)} {p0 : Nat} {ist0 : I}
    {c : St Rat S I} {P : Rat} {k : Nat} (rs : List Rat) (hrs : ∀ r ∈ rs, 0 ≤ r)
    (h : Tracks ip eq frames p0 ist0 c P k) (n : Nat) (hn : n < rs.length) :
    Tracks ip eq frames p0 ist0 (run AR ip eq (rs.take (n + 1)) c).2 (P + posAt rs (n + 1))
      ⌊P + posAt rs n⌋.toNat := by
  have step : ∀ {c' Q k'} (m) (hm : m < rs.length), Tracks ip eq frames p0 ist0 c' Q k' →
      Tracks ip eq frames p0 ist0 (stepObs AR ip eq (setPlaybackHzScale c' rs[m])).2 (Q + rs[m]) ⌊Q⌋.toNat :=
    fun m hm h' => (h'.setRatio _).step sn cs pi (hrs _ (List.getElem_mem hm))
  induction n with
  | zero =>
    rw [(run_step _ _ _ _ _ 0 hn).2, posAt_succ rs 0 hn]
    simpa [posAt, run] using step 0 hn h
  | succ n ih =>
    rw [(run_step _ _ _ _ _ _ hn).2, posAt_succ rs (n + 1) hn, ← add_assoc]
    exact step (n + 1) hn (ih (by omega))

/-- the state the run leaves behind still tracks the position: after outputs at ratios `rs` the source has
    been pulled `⌊P + r_0 + … + r_(m-2)⌋` times (the pulls are made by the *next* output, not in advance),
    and the frames are untouched — this is what `into_source()` hands back -/
theorem run_final (ip : Interp Rat S I) (eq : List S) (frames : List (List S)) (p0 : Nat) (ist0 : I)
    (rs : List Rat) (hrs : ∀ r ∈ rs, 0 ≤ r) (c : St Rat S I) (P : Rat) (k : Nat)
    (h : Tracks ip eq frames p0 ist0 c P k) :
    Tracks ip eq frames p0 ist0 (run AR ip eq rs c).2 (P + rs.sum)
      (if rs = [] then k else ⌊P + posAt rs (rs.length - 1)⌋.toNat) := by
  rcases Nat.eq_zero_or_pos rs.length with h0 | hpos
  · obtain rfl := List.length_eq_zero_iff.mp h0
    simpa [run] using h
  · have := run_take_tracks sn cs pi rs hrs h (rs.length - 1) (by omega)
    rw [Nat.sub_add_cancel hpos, List.take_length] at this
    rw [if_neg (List.ne_nil_of_length_pos hpos)]
    simpa [posAt] using this

/-- `is_exhausted()` evaluated just before output number m (m outputs already produced), constant ratio r,
    source holding R frames after priming: source exhausted (R frames pulled) and accumulator ≥ 1. -/
def Exh (r : ℚ) (R : ℕ) (m : ℕ) : Prop :=
  1 ≤ m ∧ (R : ℤ) ≤ ⌊((m : ℚ) - 1) * r⌋ ∧ ⌊((m : ℚ) - 1) * r⌋ < ⌊(m : ℚ) * r⌋

theorem not_exh_zero (r : ℚ) (R : ℕ) : ¬ Exh r R 0 := fun h => absurd h.1 (by decide)

theorem exh_succ (r : ℚ) (R m : ℕ) :
    Exh r R (m + 1) ↔ (R : ℤ) ≤ ⌊(m : ℚ) * r⌋ ∧ ⌊(m : ℚ) * r⌋ < ⌊((m + 1 : ℕ) : ℚ) * r⌋ := by
  unfold Exh
  rw [show ((m + 1 : ℕ) : ℚ) - 1 = m by push_cast; ring]
  exact and_iff_right (Nat.le_add_left 1 m)

theorem isExhausted_iter_iff (ip : Interp Rat S I) (eq : List S) (frames : List (List S)) (p0 : Nat) (ist0 : I)
    (r : Rat) (hr : 0 ≤ r) (n : Nat) :
    isExhausted AR (iter AR ip eq n ⟨⟨frames, p0⟩, ist0, 0, r⟩) = true ↔ Exh r (frames.length - p0) n := by
  cases n with
  | zero => simp [iter, isExhausted, not_exh_zero]
  | succ m =>
    have ht := run_take_tracks sn cs pi (List.replicate (m + 1) r)
      (replicate_nonneg _ hr) (Tracks.init ip eq frames p0 ist0 r) m (by simp)
    rw [List.take_replicate, min_self, posAt_replicate r _ _ le_rfl, posAt_replicate r _ _ (Nat.le_succ m),
      zero_add, zero_add] at ht
    have h0 : 0 ≤ (m : ℚ) * r := by positivity
    have := Int.floor_nonneg.mpr h0
    rw [iter_eq_run, ht.isExhausted_iff, exh_succ, floor_toNat_cast _ h0, one_le_sub_floor_iff]
    constructor <;> rintro ⟨a, b⟩ <;> exact ⟨by omega, b⟩

theorem countUntil_first (ip : Interp Rat S I) (eq : List S) (frames : List (List S)) (p0 : Nat) (ist0 : I)
    (r : Rat) (hr : 0 ≤ r) (fuel m : Nat) (hm : m ≤ fuel)
    (hfirst : ∀ j, j < m → ¬ Exh r (frames.length - p0) j) (hex : Exh r (frames.length - p0) m) :
    countUntil AR ip eq fuel ⟨⟨frames, p0⟩, ist0, 0, r⟩ = m :=
  countUntil_eq AR ip eq fuel m _ hm
    (fun j hj => by
      rw [Bool.eq_false_iff, Ne, isExhausted_iter_iff sn cs pi ip eq frames p0 ist0 r hr j]
      exact hfirst j hj)
    ((isExhausted_iter_iff sn cs pi ip eq frames p0 ist0 r hr m).mpr hex)

end

/-- the position `m·r` of output `m` is past source frame `R` exactly from output `⌈(R+1)/r⌉₊` on -/
theorem lt_floor_mul_iff (r : ℚ) (hr : 0 < r) (R m : ℕ) :
    (R : ℤ) < ⌊(m : ℚ) * r⌋ ↔ ⌈((R : ℚ) + 1) / r⌉₊ ≤ m := by
  rw [Int.lt_iff_add_one_le, Int.le_floor, Nat.ceil_le, div_le_iff₀ hr, Int.cast_add, Int.cast_natCast,
    Int.cast_one]

/-- where exhaustion is first reported, constant ratio `r > 0`, with `c = ⌈(R+1)/r⌉₊`: never before output
    `c`; before output `c` unless the step to `c` jumped over `R` — then `r > 1` and it is reported before
    `c + 1`; for `r ≤ 1` no step jumps -/
theorem exh_ceil (r : ℚ) (hr : 0 < r) (R : ℕ) :
    (∀ m, m < ⌈((R : ℚ) + 1) / r⌉₊ → ¬ Exh r R m) ∧
    (¬ Exh r R ⌈((R : ℚ) + 1) / r⌉₊ → Exh r R (⌈((R : ℚ) + 1) / r⌉₊ + 1)) ∧
    (r ≤ 1 → Exh r R ⌈((R : ℚ) + 1) / r⌉₊) := by
  have key := lt_floor_mul_iff r hr R
  obtain ⟨c', hc⟩ : ∃ c', ⌈((R : ℚ) + 1) / r⌉₊ = c' + 1 :=
    Nat.exists_eq_succ_of_ne_zero fun h0 => by
      have := (key 0).mpr h0.le
      rw [Nat.cast_zero, zero_mul, Int.floor_zero] at this; omega
  rw [hc] at key ⊢
  -- `c = c' + 1` is the first output past `R`: `⌊c'·r⌋ ≤ R < ⌊(c'+1)·r⌋`
  have hlo : ⌊(c' : ℚ) * r⌋ ≤ (R : ℤ) := not_lt.mp fun h => by have := (key c').mp h; omega
  have hhi := (key (c' + 1)).mpr le_rfl
  -- a step of at most 1 cannot jump over `R`
  have hsmall : r ≤ 1 → (R : ℤ) ≤ ⌊(c' : ℚ) * r⌋ := fun h1 => by
    have : ⌊((c' + 1 : ℕ) : ℚ) * r⌋ ≤ ⌊(c' : ℚ) * r + 1⌋ := Int.floor_mono (by rw [succ_mul_cast]; linarith)
    rw [Int.floor_add_one] at this; omega
  rw [exh_succ, exh_succ]
  refine ⟨?_, fun hn => ?_, fun h1 => ⟨hsmall h1, by omega⟩⟩
  · rintro (_ | m) hm h
    · exact not_exh_zero r R h
    · have := (exh_succ r R m).mp h
      have := (key (m + 1)).mp (by omega)
      omega
  · have h1 : 1 < r := by
      by_contra hle; exact hn ⟨hsmall (not_lt.mp hle), by omega⟩
    have : ⌊((c' + 1 : ℕ) : ℚ) * r + 1⌋ ≤ ⌊((c' + 1 + 1 : ℕ) : ℚ) * r⌋ :=
      Int.floor_mono (by rw [succ_mul_cast r (c' + 1)]; linarith)
    rw [Int.floor_add_one] at this
    exact ⟨by omega, by omega⟩

/-- the least `m` with `Exh r R m` — by `countUntil_first` the number of outputs `until_exhausted` yields — is
    `⌈(R+1)/r⌉` or one more -/
theorem count_bounds (r : ℚ) (hr : 0 < r) (R : ℕ) :
    let c := ⌈((R : ℚ) + 1) / r⌉₊
    (∀ m, m < c → ¬ Exh r R m) ∧ (Exh r R c ∨ Exh r R (c + 1)) :=
  ⟨(exh_ceil r hr R).1, or_iff_not_imp_left.mpr (exh_ceil r hr R).2.1⟩

theorem feed_floor (eq : List S) (frames : List (List S)) (m : Nat) :
    feed (floorInterp Rat S) (srcAt eq frames 0) (pulled eq frames 1 m) = srcAt eq frames m := by
  induction m with
  | zero => rfl
  | succ m ih => rw [pulled_add, feed_append, ih, Nat.add_comm 1 m]; rfl

theorem feed_linear (A : Arith Rat) (C : Codec Rat S) (eq : List S) (frames : List (List S)) (m : Nat) :
    feed (linearInterp A C) (srcAt eq frames 0, srcAt eq frames 1) (pulled eq frames 2 m)
      = (srcAt eq frames m, srcAt eq frames (m + 1)) := by
  induction m with
  | zero => rfl
  | succ m ih => rw [pulled_add, feed_append, ih, Nat.add_comm 2 m]; rfl

theorem truncRat_eq (x : Rat) : truncRat x = truncQ x := rfl

theorem i16_ofF_mono {a b : Rat} (h : a ≤ b) : i16CodecRat.ofF a ≤ i16CodecRat.ofF b := by
  simp only [i16CodecRat, truncRat_eq]
  have := truncQ_mono (show a * (32768 : Rat) ≤ b * 32768 by linarith)
  omega

theorem i16_roundtrip (v : Int) (h1 : -32768 ≤ v) (h2 : v ≤ 32767) : i16CodecRat.ofF (i16CodecRat.toF v) = v := by
  simp only [i16CodecRat]
  rw [div_mul_cancel₀ _ (by norm_num), truncRat_eq, truncQ_int]; omega

end Dasp.Conv
