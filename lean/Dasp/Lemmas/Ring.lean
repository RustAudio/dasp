import Dasp.Model.Ring
/-!
# Arithmetic of the live window of a ring buffer

`window d s n` (Model/Ring.lean) lists `d[(s+0) % c], …, d[(s+n-1) % c]`, `c = d.length`: the content of
`Bounded` and `Fixed` (Lemmas/RingOps.lean, C06) and, through `Fixed`, of the rings of the Sinc
interpolator and of the Delay node (Lemmas/Sinc.lean, Lemmas/Nodes.lean).
It is a prefix of the backing slice rotated to its start, `d.drop s ++ d.take s` (`rot` in the lemma
names; `window_eq_rot`, all of it: `window_full`); `rot_getElem?` is the one place where the wrap of
`(s + i) % c` is resolved into the two slices, for values and (through the identity slice
`List.range c`: `window_range`, `slots_eq_rot`) for positions; the code's `if next >= len { 0 }` for
the slot after `s` is `(s + 1) % c` (`nextSlot_eq`).  Core Lean only (no Mathlib needed).
-/

namespace Dasp.Ring
variable {α : Type} [Inhabited α]

theorem add_mod_wrap {s i c : Nat} (hs : s < c) (hi : i ≤ c) :
    (s + i) % c = if s + i < c then s + i else s + i - c := by
  split
  · exact Nat.mod_eq_of_lt ‹_›
  · rw [Nat.mod_eq_sub_mod (by omega)]; exact Nat.mod_eq_of_lt (by omega)

theorem getBang_set (d : List α) (p k : Nat) (x : α) :
    (d.set p x)[k]! = if p = k ∧ k < d.length then x else d[k]! := by
  by_cases h : p = k
  · subst h
    by_cases h2 : p < d.length <;> simp [h2]
  · simp [h]

theorem getBang_some (d : List α) (k : Nat) (h : k < d.length) : some d[k]! = d[k]? := by
  simp [h]

@[simp] theorem window_length (d : List α) (s n : Nat) : (window d s n).length = n := by
  simp [window]

theorem window_getElem? (d : List α) (s n i : Nat) :
    (window d s n)[i]? = if i < n then some d[(s + i) % d.length]! else none := by
  unfold window
  by_cases h : i < n <;> simp [h]

theorem window_getElem (d : List α) (s n i : Nat) (h : i < (window d s n).length) :
    (window d s n)[i] = d[(s + i) % d.length]! := by
  simp [window]

theorem slot_lt {s i c : Nat} (hs : s < c) : (s + i) % c < c := Nat.mod_lt _ (by omega)

theorem slot_inj {s i j c : Nat} (hs : s < c) (hi : i < c) (hj : j < c)
    (h : (s + i) % c = (s + j) % c) : i = j := by
  rw [add_mod_wrap hs (by omega), add_mod_wrap hs (by omega)] at h
  split at h <;> split at h <;> omega

/-- read from slot `s`, slot `t` comes `(t + n - s) % n` places later: the rotation by which `set_first`
    moves the read position from `s` to `t` (`dStep` of Props/C06.lean) -/
theorem rot_back {s t n : Nat} (hs : s < n) (ht : t < n) : (s + (t + n - s) % n) % n = t := by
  rw [Nat.add_mod_mod, show s + (t + n - s) = t + n by omega, Nat.add_mod_right, Nat.mod_eq_of_lt ht]

/-- the start slot after `s` in a ring of `c` slots: `Bounded.nextStart` as a function of the two numbers -/
def nextSlot (c s : Nat) : Nat := if s + 1 ≥ c then 0 else s + 1

theorem nextSlot_eq {c s : Nat} (hs : s < c) : nextSlot c s = (s + 1) % c := by
  unfold nextSlot
  split
  · rw [show s + 1 = c by omega, Nat.mod_self]
  · exact (Nat.mod_eq_of_lt (by omega)).symm

theorem nextSlot_lt {c s : Nat} (hs : s < c) : nextSlot c s < c := nextSlot_eq hs ▸ Nat.mod_lt _ (by omega)

theorem window_succ (d : List α) (s n : Nat) (hs : s < d.length) :
    window d s (n + 1) = d[s]! :: window d (nextSlot d.length s) n := by
  unfold window
  rw [nextSlot_eq hs, List.range_succ_eq_map, List.map_cons, List.map_map, Nat.add_zero, Nat.mod_eq_of_lt hs]
  congr 2; funext i; simp only [Function.comp, Nat.mod_add_mod, Nat.add_assoc, Nat.add_comm 1 i]

theorem window_snoc (d : List α) (s n : Nat) :
    window d s (n + 1) = window d s n ++ [d[(s + n) % d.length]!] := by
  unfold window
  rw [List.range_succ, List.map_append]; rfl

theorem window_head? (d : List α) (s n : Nat) (hs : s < d.length) (hn : 0 < n) :
    (window d s n).head? = some d[s]! := by
  obtain ⟨m, rfl⟩ : ∃ m, n = m + 1 := ⟨n - 1, by omega⟩
  rw [window_succ d s m hs]; rfl

theorem window_set_notin (d : List α) (s n p : Nat) (x : α)
    (h : ∀ i, i < n → (s + i) % d.length ≠ p) : window (d.set p x) s n = window d s n := by
  apply List.ext_getElem
  · simp
  · intro i h1 h2
    simp only [window_length] at h1
    rw [window_getElem, window_getElem, List.length_set, getBang_set]
    have := h i h1
    simp [Ne.symm this]

theorem window_set_at (d : List α) (s n i : Nat) (x : α) (hs : s < d.length) (hn : n ≤ d.length)
    (hi : i < n) : window (d.set ((s + i) % d.length) x) s n = (window d s n).set i x := by
  apply List.ext_getElem
  · simp
  · intro j h1 h2
    simp only [window_length] at h1
    rw [window_getElem, List.length_set, getBang_set, List.getElem_set, window_getElem]
    by_cases hij : i = j
    · subst hij; simp [slot_lt hs]
    · have : (s + i) % d.length ≠ (s + j) % d.length := fun e => hij (slot_inj hs (by omega) (by omega) e)
      simp [this, hij]

theorem window_push (d : List α) (s n : Nat) (x : α) (hs : s < d.length) (hn : n < d.length) :
    window (d.set ((s + n) % d.length) x) s (n + 1) = window d s n ++ [x] := by
  rw [window_snoc, window_set_notin d s n _ x fun i hi e => Nat.ne_of_lt hi (slot_inj hs (by omega) hn e),
    List.length_set, getBang_set, if_pos ⟨rfl, slot_lt hs⟩]

/-- the push into a full ring: overwrite the oldest slot `s` and read from the slot after it -/
theorem window_rotate_push (d : List α) (s : Nat) (x : α) (hs : s < d.length) :
    window (d.set s x) (nextSlot d.length s) d.length = (window d s d.length).tail ++ [x] := by
  obtain ⟨m, hm⟩ : ∃ m, d.length = m + 1 := ⟨d.length - 1, by omega⟩
  have hslot : (nextSlot d.length s + m) % d.length = s := by
    rw [nextSlot_eq hs, Nat.mod_add_mod, show s + 1 + m = s + d.length by omega, Nat.add_mod_right,
      Nat.mod_eq_of_lt hs]
  have h1 := window_push d (nextSlot d.length s) m x (nextSlot_lt hs) (by omega)
  have h2 := window_succ d s m hs
  rw [hslot, ← hm] at h1
  rw [← hm] at h2
  rw [h1, h2]; rfl

omit [Inhabited α] in
theorem rot_getElem? (d : List α) {s i : Nat} (hs : s ≤ d.length) (hi : i < d.length) :
    (d.drop s ++ d.take s)[i]? = d[(s + i) % d.length]? := by
  by_cases h : s + i < d.length
  · rw [List.getElem?_append_left (by rw [List.length_drop]; omega), List.getElem?_drop,
      Nat.mod_eq_of_lt h]
  · rw [List.getElem?_append_right (by rw [List.length_drop]; omega), List.length_drop,
      List.getElem?_take_of_lt (by omega), Nat.mod_eq_sub_mod (by omega), Nat.mod_eq_of_lt (by omega)]
    congr 1; omega

theorem window_eq_rot (d : List α) {s n : Nat} (hs : s ≤ d.length) (hn : n ≤ d.length) :
    window d s n = (d.drop s ++ d.take s).take n := by
  apply List.ext_getElem?
  intro i
  rw [window_getElem?, List.getElem?_take]
  split
  · rw [rot_getElem? d hs (by omega), getBang_some d _ (Nat.mod_lt _ (by omega))]
  · rfl

/-- the whole ring read from slot `s` is the backing slice rotated to `s` -/
theorem window_full (d : List α) {s : Nat} (hs : s ≤ d.length) : window d s d.length = d.drop s ++ d.take s := by
  rw [window_eq_rot d hs (Nat.le_refl _),
    List.take_of_length_le (by rw [List.length_append, List.length_drop, List.length_take]; omega)]

theorem window_window (d : List α) (s k n : Nat) (h : 0 < d.length) :
    window (window d s d.length) k n = window d ((s + k) % d.length) n := by
  apply List.ext_getElem?
  intro i
  rw [window_getElem?, window_getElem?, window_length]
  split
  · rw [getElem!_def, window_getElem?, if_pos (Nat.mod_lt _ h), Nat.add_mod_mod, Nat.mod_add_mod,
      Nat.add_assoc]
  · rfl

theorem window_range (c s n : Nat) (hc : 0 < c) :
    window (List.range c) s n = (List.range n).map fun i => (s + i) % c := by
  unfold window
  apply List.map_congr_left
  intro i _
  have : (s + i) % c < (List.range c).length := by rw [List.length_range]; exact Nat.mod_lt _ hc
  rw [List.length_range, getElem!_pos (List.range c) _ this, List.getElem_range]

theorem slots_eq_rot {c s n : Nat} (hs : s < c) (hn : n ≤ c) :
    ((List.range' 0 n).map fun i => (s + i) % c) = (List.range' s (c - s) ++ List.range' 0 s).take n := by
  rw [← List.range_eq_range' (n := n), ← window_range c s n (Nat.zero_lt_of_lt hs),
    window_eq_rot _ (by rw [List.length_range]; exact Nat.le_of_lt hs) (by rw [List.length_range]; exact hn),
    List.take_range, Nat.min_eq_left (Nat.le_of_lt hs), List.range_eq_range', List.range_eq_range',
    List.drop_range', Nat.zero_add, Nat.mul_one]

/-- abstract counterpart of `writeAt`: overwrite positions k, k+1, … of a list -/
def overwrite (l : List α) : Nat → List α → List α
  | _, [] => l
  | k, x :: xs => overwrite (l.set k x) (k + 1) xs

omit [Inhabited α] in
@[simp] theorem overwrite_length (l : List α) (k : Nat) (xs : List α) :
    (overwrite l k xs).length = l.length := by
  induction xs generalizing l k with
  | nil => rfl
  | cons x xs ih => simp [overwrite, ih]

omit [Inhabited α] in
theorem overwrite_oob (l : List α) (k : Nat) (xs : List α) (h : l.length ≤ k) : overwrite l k xs = l := by
  induction xs generalizing l k with
  | nil => rfl
  | cons x xs ih =>
    simp only [overwrite]
    rw [ih _ _ (by simp; omega)]
    exact List.set_eq_of_length_le h

omit [Inhabited α] in
theorem overwrite_cons_succ (a : α) (l : List α) (k : Nat) (xs : List α) :
    overwrite (a :: l) (k + 1) xs = a :: overwrite l k xs := by
  induction xs generalizing l k with
  | nil => rfl
  | cons x xs ih => rw [overwrite, List.set_cons_succ, ih, overwrite]

omit [Inhabited α] in
theorem overwrite_zero (l xs : List α) : overwrite l 0 xs = xs.take l.length ++ l.drop xs.length := by
  induction xs generalizing l with
  | nil => simp [overwrite]
  | cons x xs ih =>
    cases l with
    | nil => rw [overwrite, List.set_nil, overwrite_oob _ _ _ (Nat.zero_le _)]; rfl
    | cons a l => rw [overwrite, List.set_cons_zero, overwrite_cons_succ, ih]; rfl

omit [Inhabited α] in
theorem writeAt_length (ps : List Nat) (xs : List α) (d : List α) : (writeAt d ps xs).length = d.length := by
  induction ps generalizing xs d with
  | nil => cases xs <;> rfl
  | cons p ps ih =>
    cases xs with
    | nil => rfl
    | cons x xs => exact (ih xs _).trans (List.length_set ..)

theorem window_writeAt (d : List α) (s n m k : Nat) (xs : List α) (hs : s < d.length)
    (hn : n ≤ d.length) (hk : k + m = n) :
    window (writeAt d ((List.range' k m).map fun i => (s + i) % d.length) xs) s n
      = overwrite (window d s n) k xs := by
  induction m generalizing d k xs with
  | zero =>
    rw [overwrite_oob _ _ _ (by simp; omega)]
    cases xs <;> rfl
  | succ m ih =>
    cases xs with
    | nil => simp [writeAt, overwrite]
    | cons x xs =>
      simp only [List.range'_succ, List.map_cons, writeAt, overwrite]
      have hl : (d.set ((s + k) % d.length) x).length = d.length := by simp
      have := ih (d.set ((s + k) % d.length) x) (k + 1) xs (by simpa using hs) (by simpa using hn) (by omega)
      rw [hl] at this
      rw [this, window_set_at d s n k x hs hn (by omega)]

end Dasp.Ring
