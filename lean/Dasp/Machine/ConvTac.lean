import Dasp.Machine.ConvSym
/-! What the generated int→int conversion obligations are stated and closed with. -/
namespace Dasp

/-- `e` is a correct body for the conversion `s → d`: on every in-range input no overflow panic in checked
    builds (`ok`), in-range arguments to the unchecked 24/48-bit constructors (`valid`), and the specified value. -/
def ConvSpec (s d : Fmt) (e : Expr) : Prop :=
  ∀ v : Int, s.inRange v → ok v e ∧ valid v e ∧ val v e = specConv s d v

/-- The bodies written as `super::m::to_d(to_m(s))` are correct because their two halves are
    (`specConv_via`); nothing about the halves' own bodies is needed. -/
theorem ConvSpec.call {s m d : Fmt} {f g : Expr} (hg : ConvSpec s m g) (hf : ConvSpec m d f)
    (hm : min s.bits d.bits ≤ m.bits) : ConvSpec s d (.call f (.call g .var)) := by
  intro v hv
  obtain ⟨og, vg, eg⟩ := hg v hv
  obtain ⟨of, vf, ef⟩ := hf (val v g) (eg ▸ specConv_inRange s m hv)
  exact ⟨⟨⟨trivial, og⟩, of⟩, ⟨⟨trivial, vg⟩, vf⟩, by rw [← specConv_via hm, ← eg]; exact ef⟩

/-- A body in which nothing wraps is correct because symbolic evaluation on the source range finds the specified function. -/
theorem ConvSpec.of_sym {s d : Fmt} {e : Expr} (h : sym s.lo s.hi e = some (specForm s d)) : ConvSpec s d e :=
  fun v hv => specForm_eval s d v ▸ sym_sound h v hv.1 hv.2

/-- The uniform tactic for a body given by its own arithmetic (goal: `ok v e ∧ valid v e ∧ val v e = specConv s d v` with
    `s.inRange v` in the context).  First `ConvSpec.of_sym` with `sym` evaluated by the kernel: that settles a body made
    of casts, `+`/`-` of a literal, shifts, `new_unchecked` and a sign test `if s < N` on the input, none of them
    receiving a value outside its type.  A body that wraps on purpose (`^ 0x80`, `wrapping_add`, a truncating cast;
    `conv.rs` has none) makes `sym` answer `none`; then the semantics is unfolded to linear integer arithmetic with `%`
    and `/` by literals, split on the sign test if there is one, and left to `omega`. -/
macro "conv_tac" : tactic => `(tactic|
  first
  | exact ConvSpec.of_sym (by decide +kernel) _ ‹_›
  | (simp only [Fmt.inRange, Fmt.lo, Fmt.hi] at *
     simp [val, ok, valid, specConv, ITy.inRange, Fmt.inRange, ITy.wrap, Cmp.holds]
     (try (repeat' constructor)) <;> (intros; (try split) <;> omega)))

end Dasp
