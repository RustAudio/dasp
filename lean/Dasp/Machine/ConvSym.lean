import Dasp.Lemmas.Rescale
/-!
# Symbolic evaluation of a conversion body on an interval of inputs

In `conv.rs` no cast, checked `+`/`-`, shift or `new_unchecked` ever receives a value outside its type: every
body computes `m·v + c` (widening) or `⌊v / 2^k⌋ + c` (narrowing) of its input `v`, on each side of the sign test
`if s < N` where there is one.  `sym l h e` finds that function, checking at every node that its range on `[l, h]` fits the
node's type; `sym_sound` says that then `ok`, `valid` and `val` are what one expects.  Both kinds of function are
monotone, so a range check is two comparisons at the ends of the interval.  A body that does wrap (`wrapping_add`,
`^ 0x80`, a cast that truncates) gets `none` and is left to `omega` (`conv_tac`).
-/
namespace Dasp

/-- the value of a body as a function of its input `v`: `m·v + c`, or `⌊v / 2^k⌋ + c` -/
inductive Form | aff (m : Nat) (c : Int) | shr (k : Nat) (c : Int)
deriving DecidableEq

def Form.eval : Form → Int → Int
  | .aff m c, v => m * v + c
  | .shr k c, v => v / 2 ^ k + c

theorem Form.eval_mono (F : Form) {a b : Int} (h : a ≤ b) : F.eval a ≤ F.eval b := by
  cases F with
  | aff m c => exact Int.add_le_add_right (Int.mul_le_mul_of_nonneg_left h (Int.natCast_nonneg m)) c
  | shr k c => exact Int.add_le_add_right (Int.ediv_le_ediv (two_pow_pos k) h) c

def Form.shift (d : Int) : Form → Form
  | .aff m c => .aff m (c + d)
  | .shr k c => .shr k (c + d)

theorem Form.eval_shift (F : Form) (d v : Int) : (F.shift d).eval v = F.eval v + d := by
  cases F <;> simp only [shift, eval, Int.add_assoc]

/-- `F`, provided its values on `[l, h]` lie in `[lo, hi]` -/
def Form.fits (F : Form) (l h lo hi : Int) : Option Form :=
  if lo ≤ F.eval l ∧ F.eval h ≤ hi then some F else none

theorem Form.fits_sound {F G : Form} {l h lo hi v : Int} (hf : F.fits l h lo hi = some G) (hl : l ≤ v) (hh : v ≤ h) :
    G = F ∧ lo ≤ F.eval v ∧ F.eval v ≤ hi := by
  unfold fits at hf
  split at hf
  · next hr => exact ⟨(Option.some.inj hf).symm, Int.le_trans hr.1 (F.eval_mono hl), Int.le_trans (F.eval_mono hh) hr.2⟩
  · cases hf

/-- `some F` only if for every input in `[l, h]` no cast, checked operation or shift of `e` wraps or panics,
    every `new_unchecked` receives an in-range value, and the value is `F.eval v`. -/
def sym (l h : Int) : Expr → Option Form
  | .var => some (.aff 1 0)
  | .lit c => some (.aff 0 c)
  | .cast t e => (sym l h e).bind (·.fits l h t.lo t.hi)
  | .newUnchecked f e => (sym l h e).bind (·.fits l h f.lo f.hi)
  | .add t a (.lit c) => (sym l h a).bind fun F => (F.shift c).fits l h t.lo t.hi
  | .sub t a (.lit c) => (sym l h a).bind fun F => (F.shift (-c)).fits l h t.lo t.hi
  | .shl t a k => (sym l h a).bind fun
    | .aff m c => if k < t.bits then (Form.aff (m * 2 ^ k) (c * 2 ^ k)).fits l h t.lo t.hi else none
    | _ => none
  | .shr t a k => if k < t.bits ∧ sym l h a = some (.aff 1 0) then some (.shr k 0) else none
  | .ite .lt .var (.lit n) t e =>
    (sym l (min h (n - 1)) t).bind fun F => if sym (max l n) h e = some F then some F else none
  | _ => none

/-- what a range check that succeeded says at a node of type `t` whose unwrapped value is `x` -/
theorem Form.fits_wrap {F G : Form} {t : ITy} {l h v x : Int} (hf : F.fits l h t.lo t.hi = some G)
    (hl : l ≤ v) (hh : v ≤ h) (hx : x = F.eval v) : t.inRange x ∧ t.wrap x = G.eval v := by
  obtain ⟨rfl, r⟩ := Form.fits_sound hf hl hh
  rw [← hx] at r ⊢
  exact ⟨r, ITy.wrap_of_inRange r⟩

theorem sym_sound {l h : Int} {e : Expr} {F : Form} (hs : sym l h e = some F) :
    ∀ v, l ≤ v → v ≤ h → ok v e ∧ valid v e ∧ val v e = F.eval v := by
  intro v hl hh
  -- The cases follow the equations of `sym`, except that `shr` gives two: its test holds (`case8`) or fails (`case9`).
  -- Where `sym` answers `none` (`case9`, and `case11` for every other expression) `hs` is absurd: the last line.
  fun_induction sym l h e generalizing F
  case case1 | case2 => cases hs; exact ⟨trivial, trivial, by simp [val, Form.eval]⟩  -- `var`, `lit`
  case case3 ih =>  -- `cast`
    obtain ⟨G, hG, hf⟩ := Option.bind_eq_some_iff.1 hs
    obtain ⟨o, vd, ev⟩ := ih hG hl hh
    exact ⟨o, vd, (Form.fits_wrap hf hl hh ev).2⟩
  case case4 ih =>  -- `newUnchecked`
    obtain ⟨G, hG, hf⟩ := Option.bind_eq_some_iff.1 hs
    obtain ⟨o, vd, ev⟩ := ih hG hl hh
    obtain ⟨rfl, r⟩ := Form.fits_sound hf hl hh
    exact ⟨o, ⟨vd, ev ▸ r⟩, ev⟩
  case case5 c ih =>  -- `add`
    obtain ⟨G, hG, hf⟩ := Option.bind_eq_some_iff.1 hs
    obtain ⟨o, vd, ev⟩ := ih hG hl hh
    have := Form.fits_wrap hf hl hh (x := val v _ + c) (by rw [ev, Form.eval_shift])
    exact ⟨⟨o, trivial, this.1⟩, ⟨vd, trivial⟩, this.2⟩
  case case6 c ih =>  -- `sub`
    obtain ⟨G, hG, hf⟩ := Option.bind_eq_some_iff.1 hs
    obtain ⟨o, vd, ev⟩ := ih hG hl hh
    have := Form.fits_wrap hf hl hh (x := val v _ - c) (by rw [ev, Form.eval_shift, Int.sub_eq_add_neg])
    exact ⟨⟨o, trivial, this.1⟩, ⟨vd, trivial⟩, this.2⟩
  case case7 a k ih =>  -- `shl`
    obtain ⟨G, hG, hf⟩ := Option.bind_eq_some_iff.1 hs
    obtain ⟨o, vd, ev⟩ := ih hG hl hh
    cases G with
    | shr => cases hf
    | aff m c =>
      dsimp only at hf
      split at hf
      · next hk =>
        have := Form.fits_wrap hf hl hh (x := val v a * 2 ^ k)
          (by simp [ev, Form.eval, Int.add_mul, Int.mul_assoc, Int.mul_comm])
        exact ⟨⟨o, hk⟩, vd, this.2⟩
      · cases hf
  case case8 hk ih =>  -- `shr`
    cases hs
    obtain ⟨o, vd, ev⟩ := ih hk.2 hl hh
    exact ⟨⟨o, hk.1⟩, vd, by simp [val, ev, Form.eval]⟩
  case case10 n _ _ iht ihe =>  -- `ite`
    obtain ⟨G, hG, hf⟩ := Option.bind_eq_some_iff.1 hs
    split at hf
    · next hG' =>
      cases hf
      by_cases hv : v < n
      · obtain ⟨o, vd, ev⟩ := iht hG hl (by omega)
        simp [ok, valid, val, Cmp.holds, hv, o, vd, ev]
      · obtain ⟨o, vd, ev⟩ := ihe hG' (by omega) hh
        simp [ok, valid, val, Cmp.holds, hv, o, vd, ev]
    · cases hf
  all_goals cases hs

/-- `specConv s d` as a `Form` -/
def specForm (s d : Fmt) : Form :=
  if s.bits ≤ d.bits then .aff (2 ^ (d.bits - s.bits)) (d.off - s.off * 2 ^ (d.bits - s.bits))
  else .shr (s.bits - d.bits) (d.off - s.off / 2 ^ (s.bits - d.bits))

theorem specForm_eval (s d : Fmt) (v : Int) : (specForm s d).eval v = specConv s d v := by
  unfold specForm specConv
  split
  · simp only [Form.eval, Int.natCast_pow, Int.cast_ofNat_Int, Int.sub_mul, Int.mul_comm v]
    omega
  · -- the offset of `s` is a multiple of the divisor, so it can be divided separately
    have hd : (2 : Int) ^ (s.bits - d.bits) ∣ s.off := by
      rcases s.off_eq with h | h <;> rw [h]
      · exact Int.dvd_zero _
      · exact ⟨_, two_pow_split (s.bits - 1 - (s.bits - d.bits)) (by have := d.bits_pos; omega)⟩
    rw [Form.eval, Int.sub_ediv_of_dvd v hd]; omega

end Dasp
